-- Root of the `TmVerif` library: models, driver commands, proofs and property theorems.
import TmVerif.Model.Mapper
import TmVerif.Monitors
import TmVerif.Driver.Proto
import TmVerif.Driver.MapperCmd
import TmVerif.Model.Loop
import TmVerif.LoopMonitors
import TmVerif.Driver.LoopCmd
import TmVerif.Proofs.Emits
import TmVerif.Proofs.Inv
import TmVerif.Proofs.StepInv
import TmVerif.Proofs.Reach
import TmVerif.Proofs.Fired
import TmVerif.Props.C01
import TmVerif.Props.C02
import TmVerif.Props.C07
import TmVerif.Props.C09
import TmVerif.Props.C19
import TmVerif.Proofs.NoAbs
import TmVerif.Props.C03
import TmVerif.Generated.Tables
import TmVerif.Model.InputEvent
import TmVerif.Driver.BytesCmd
import TmVerif.Proofs.Bytes
import TmVerif.Props.C18
import TmVerif.Model.Escape
import TmVerif.Model.Systemd
import TmVerif.Driver.EscapeCmd
import TmVerif.Props.C17
import TmVerif.Proofs.Loop
import TmVerif.Proofs.LoopRun
import TmVerif.Props.C10
import TmVerif.Props.C11
import TmVerif.Props.C12
import TmVerif.Props.C20
import TmVerif.Model.Listing
import TmVerif.Driver.ListingCmd
import TmVerif.Proofs.Listing
import TmVerif.Proofs.ListingSelect
import TmVerif.Props.C16
import TmVerif.Proofs.PassKeep
import TmVerif.Proofs.Foreign
import TmVerif.Proofs.Consumed
import TmVerif.Props.C05
import TmVerif.Props.C02d
import TmVerif.Props.C04
import TmVerif.Proofs.Frame
import TmVerif.Proofs.Inert
import TmVerif.Props.C06
import TmVerif.Props.C08
import TmVerif.Props.C05b
import TmVerif.Model.Json
import TmVerif.Model.Fancy
import TmVerif.Model.Keys
import TmVerif.Model.Parse
import TmVerif.Model.Convert
import TmVerif.Model.Load
import TmVerif.Model.Expand
import TmVerif.Driver.LoadCmd
import TmVerif.Proofs.LoadBasic
import TmVerif.Proofs.LoadWellFormed
import TmVerif.Proofs.LoadChoices
import TmVerif.Proofs.LoadParse
import TmVerif.Proofs.LoadMultiply
import TmVerif.Proofs.LoadKeys
import TmVerif.Proofs.LoadSave
import TmVerif.Proofs.LoadExpandA
import TmVerif.Proofs.LoadExpandB
import TmVerif.Proofs.LoadExpandC
import TmVerif.Proofs.LoadSpec
import TmVerif.Proofs.Load
import TmVerif.Props.C14
import TmVerif.Props.C15
import TmVerif.Props.C13
import TmVerif.Props.C04Monitor
import TmVerif.Props.C05Monitor
import TmVerif.Props.StepMonitors
import TmVerif.Proofs.LoopSpecSim
import TmVerif.Props.LoopSpec
import TmVerif.Model.MapperIdx
import TmVerif.Model.MapperIdxOps
import TmVerif.Proofs.MapperIdx
import TmVerif.Props.C14Idx
import TmVerif.Model.LoopEnv
import TmVerif.Proofs.LoopEnv
import TmVerif.Props.C10Closed
import TmVerif.Driver.LoopEnvCmd
import TmVerif.Props.FixScope
import TmVerif.Model.EndToEnd
import TmVerif.Proofs.EndToEnd
import TmVerif.Props.E2E
import TmVerif.Driver.E2ECmd
import TmVerif.Proofs.EndToEndAny
import TmVerif.Proofs.EndToEndTimed
import TmVerif.Proofs.EndToEndNoSpecial
