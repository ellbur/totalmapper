/-
C07 — A no-repeat mapping never leaves a repeatable key held.

"After a step that fires a mapping whose repeat mode is Disabled or Special, no non-modifier key is
held on the virtual keyboard, so the consumer's auto-repeat cannot start; each of the mapping's
output keys was nevertheless pressed during that step.  No later release event makes a key held
again."

Quantifier: every layout, every history; every firing step from every reachable state; every
later release (C02c: a release emits releases only).
-/
import TmVerif.Props.C02

namespace TmVerif

/-- the firing step: afterwards no non-modifier key is held; each non-modifier output key got a
press event in this step; each modifier output key is held afterwards -/
theorem C07_fire (L : Layout) (x : Sys) (hx : Reachable L x) (k : Key) (hk : k ∉ x.s.inp)
    (m : Mapping) (hm : findMapping L x.s k = some m) (hrep : m.rep.isNormal = false) :
    (∀ y, y ∈ (x.next L (Op.ev (Event.pressed k))).V → isActionKey y = false) ∧
    (∀ y, y ∈ m.to → isActionKey y = true → Event.pressed y ∈ (step L x.s (Event.pressed k)).2.events) ∧
    (∀ y, y ∈ m.to → isActionKey y = false → y ∈ (x.next L (Op.ev (Event.pressed k))).V) := by
  have hv := (hx.next (Op.ev (Event.pressed k))).sinv.vheld
  have a := fires_any L x.s k m hx.sinv.inv.i hk hm
  exact ⟨fun y hy => a.lifted hrep y ((hv y).mp hy), a.action, fun y hy hay => (hv y).mpr (a.mods y hy hay)⟩

/-- monitor form: the observational "fired" coincides with the model's choice (`fired_eq`) -/
theorem C07_monitor (L : Layout) (x : Sys) (hx : Reachable L x) (e : Event) :
    monC07 (x.obs L e) = true := by
  simp only [monC07, Bool.and_eq_true]
  refine ⟨?_, C02c_monitor L x hx e⟩
  cases e with
  | released k => rw [fired_released]
  | pressed k =>
    by_cases hk : k ∈ x.s.inp
    · rw [fired_ignored L x k hk]
    · rw [fired_eq hx.sinv k hk]
      cases hf : findMapping L x.s k with
      | none => rfl
      | some m =>
        simp only
        cases hrep : m.rep.isNormal with
        | true => simp
        | false =>
          have c := C07_fire L x hx k hk m hf hrep
          simp only [Bool.false_eq_true, if_false, Bool.and_eq_true, List.all_eq_true]
          refine ⟨?_, ?_⟩
          · intro y hy
            have := c.1 y (by simpa [Obs.V', Sys.obs, Sys.next] using hy)
            simp [this]
          · intro y hy
            cases hay : isActionKey y with
            | true => simp only [if_true]; simpa [pressedIn, Sys.obs] using c.2.1 y hy hay
            | false =>
              simp only [Bool.false_eq_true, if_false]
              have := c.2.2 y hy hay
              simpa [Obs.V', Sys.obs, Sys.next] using this

/-! Non-vacuity: `A → A` with repeat Disabled while LEFTSHIFT is held (unit test `no_repeat_test_2`):
A is pressed and lifted in the same step, LEFTSHIFT stays. -/
example :
    let L : Layout := [⟨[30], [30], Repeat.disabled, []⟩]
    let x := Sys.run L Sys.init [Op.ev (Event.pressed 42)]
    findMapping L x.s 30 = some ⟨[30], [30], Repeat.disabled, []⟩ ∧
    (step L x.s (Event.pressed 30)).2.events = [Event.pressed 30, Event.released 30] ∧
    (x.next L (Op.ev (Event.pressed 30))).V = [42] := by
  decide

end TmVerif
