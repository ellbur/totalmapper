/-
C13 — Row and alias shorthands mean exactly their hand-written expansion.

"A layout written with {row}/{letters} rows and @alias modifiers converts to the same basic mappings
as the layout with every shorthand written out by hand: one mapping per non-space letter and per
combination of alias definitions, with the Shift a US-QWERTY keyboard needs for that character
(right Shift if the trigger contains right Shift), output-side aliases replaced by the keys chosen
on the trigger side, and source order preserved between different source mappings.  Repeat-only
entries set the repeat mode of the mappings with the same trigger set, or add an identity mapping if
there is none.  Equivalent spellings (bare string vs one-element array, row and repeat names in
either case) convert identically."

Parts:
* `C13_chars`, `C13_rows`, `C13_modifier_codes`: the regenerated tables (`CHAR_ACCESS_MAP`,
  `US_KEYBOARD_LAYOUT`, the `KeyCode` numbers the converter names) against an independent oracle
  written here: the US-QWERTY rows as unshifted / shifted strings zipped with the kernel key codes.
* `C13_multiply`: the model of `MultiplyIter` yields exactly the cartesian product in odometer
  order, first index fastest, each tuple once, within the fuel the model gives it.
* `C13_spelling_*`: bare value vs one-element array, and ASCII case of row / repeat names.
* `C13_spec`: `convert F = Expand.expand F` for EVERY fancy layout, where `expand` is the declarative
  expansion of `Model/Expand.lean` (proved in `Proofs/LoadExpand{A,B,C}.lean`, put together in `Proofs/Load.lean`); `C13_handwritten`:
  the layout and its expansion written out by hand convert to the same basic mappings.  The same
  comparison is also run executably by suite `load` (commands `C13`, `C13X`) on every generated program
  against the model AND the implementation.
-/
import TmVerif.Proofs.LoadSave
import TmVerif.Props.C14

namespace TmVerif
open TmVerif.Tables Outcome

/-! ## (1) the tables against an independent oracle -/

namespace Qwerty

/-- the four character rows of a US-QWERTY keyboard: unshifted, shifted, kernel key codes -/
def rowGrave : List Char × List Char × List Nat :=
  (['`','1','2','3','4','5','6','7','8','9','0','-','='],
   ['~','!','@','#','$','%','^','&','*','(',')','_','+'],
   [41, 2, 3, 4, 5, 6, 7, 8, 9, 10, 11, 12, 13])      -- GRAVE, K1..K0, MINUS, EQUAL
def rowQ : List Char × List Char × List Nat :=
  (['q','w','e','r','t','y','u','i','o','p','[',']'],
   ['Q','W','E','R','T','Y','U','I','O','P','{','}'],
   [16, 17, 18, 19, 20, 21, 22, 23, 24, 25, 26, 27])   -- Q..P, LEFTBRACE, RIGHTBRACE
def rowA : List Char × List Char × List Nat :=
  (['a','s','d','f','g','h','j','k','l',';','\''],
   ['A','S','D','F','G','H','J','K','L',':','"'],
   [30, 31, 32, 33, 34, 35, 36, 37, 38, 39, 40])       -- A..L, SEMICOLON, APOSTROPHE
def rowZ : List Char × List Char × List Nat :=
  (['z','x','c','v','b','n','m',',','.','/'],
   ['Z','X','C','V','B','N','M','<','>','?'],
   [44, 45, 46, 47, 48, 49, 50, 51, 52, 53])           -- Z..M, COMMA, DOT, SLASH
/-- the backslash key, which is on no letter row -/
def backslash : List Char × List Char × List Nat := (['\\'], ['|'], [43])

/-- (character code, needs Shift, key) for every character of a row description -/
def entriesOf (r : List Char × List Char × List Nat) : List (Nat × Bool × Nat) :=
  (r.1.zip r.2.2).map (fun p => (p.1.toNat, false, p.2)) ++ (r.2.1.zip r.2.2).map (fun p => (p.1.toNat, true, p.2))

/-- the oracle: how a US-QWERTY keyboard produces each printable character -/
def oracle : List (Nat × Bool × Nat) :=
  entriesOf rowGrave ++ entriesOf rowQ ++ entriesOf rowA ++ entriesOf rowZ ++ entriesOf backslash

end Qwerty

/-- the table is the oracle, sorted by character -/
theorem charTable_eq_sorted_oracle : charTable = qsortBy (·.1) Qwerty.oracle.length Qwerty.oracle := by
  decide +kernel
theorem charTable_chars : charTable.map (·.1) = List.range' 33 94 := by decide +kernel

/-- C13, characters: `CHAR_ACCESS_MAP` has exactly the entries of the oracle — every one of the 94
printable non-space ASCII characters (codes 33..126), each once, with exactly the (Shift, key) a
US-QWERTY keyboard needs; nothing else (in particular no space, no non-ASCII character). -/
theorem C13_chars :
    (∀ e, e ∈ charTable ↔ e ∈ Qwerty.oracle) ∧ charTable.map (·.1) = List.range' 33 94 := by
  refine ⟨fun e => ?_, charTable_chars⟩
  rw [charTable_eq_sorted_oracle]
  exact (qsortBy_perm _ _ _).mem_iff

/-- `C13_chars` in terms of the lookup the converter makes: for a printable non-space ASCII
character the table answers what the oracle says, for anything else it has no entry. -/
theorem C13_chars_lookup (c : Char) :
    (Convert.charAccess c = none ↔ ¬ (33 ≤ c.toNat ∧ c.toNat ≤ 126)) ∧
    ∀ sh k, Convert.charAccess c = some (sh, k) → (c.toNat, sh, k) ∈ Qwerty.oracle := by
  have key : ∀ (tbl : List (Nat × Bool × Nat)) (n : Nat),
      (Convert.charAccessIn n tbl = none ↔ n ∉ tbl.map (·.1)) ∧
      ∀ sh k, Convert.charAccessIn n tbl = some (sh, k) → (n, sh, k) ∈ tbl := by
    intro tbl n
    induction tbl with
    | nil => simp [Convert.charAccessIn]
    | cons e rest ih =>
      obtain ⟨ch, sh', k'⟩ := e
      simp only [Convert.charAccessIn]
      by_cases h : ch = n
      · subst h; simp
      · have h' : (ch == n) = false := by simpa using h
        simp only [h', Bool.false_eq_true, if_false, List.map_cons, List.mem_cons]
        refine ⟨by rw [ih.1]; simp [Ne.symm h], fun sh k hk => Or.inr (ih.2 sh k hk)⟩
  obtain ⟨h1, h2⟩ := key charTable c.toNat
  refine ⟨?_, fun sh k h => (C13_chars.1 _).1 (h2 sh k h)⟩
  unfold Convert.charAccess
  rw [h1, charTable_chars, List.mem_range'_1]
  omega

/-- C13, rows: `US_KEYBOARD_LAYOUT` has exactly the five rows named `` ` `` `1` `Q` `A` `Z`, each
with exactly the oracle's keys, left to right; row `1` is row `` ` `` without its first key. -/
theorem C13_rows :
    rowTable = [(['`'.toNat], Qwerty.rowGrave.2.2), (['1'.toNat], Qwerty.rowGrave.2.2.tail),
                (['Q'.toNat], Qwerty.rowQ.2.2), (['A'.toNat], Qwerty.rowA.2.2), (['Z'.toNat], Qwerty.rowZ.2.2)] := by
  decide +kernel

/-- the key numbers the converter and the specification name are the codes of the keys they mean -/
theorem C13_modifier_codes :
    lookupVariant (codesOf ['L','E','F','T','S','H','I','F','T']) = some LEFTSHIFT ∧
    lookupVariant (codesOf ['R','I','G','H','T','S','H','I','F','T']) = some RIGHTSHIFT ∧
    [lookupVariant (codesOf ['L','E','F','T','S','H','I','F','T']),
     lookupVariant (codesOf ['R','I','G','H','T','S','H','I','F','T']),
     lookupVariant (codesOf ['L','E','F','T','A','L','T']), lookupVariant (codesOf ['R','I','G','H','T','A','L','T']),
     lookupVariant (codesOf ['L','E','F','T','C','T','R','L']), lookupVariant (codesOf ['R','I','G','H','T','C','T','R','L']),
     lookupVariant (codesOf ['L','E','F','T','M','E','T','A']), lookupVariant (codesOf ['R','I','G','H','T','M','E','T','A'])]
      = [some 42, some 54, some 56, some 100, some 29, some 97, some 125, some 126] ∧
    (∀ k, isModifierKey k = true ↔ k ∈ [42, 54, 56, 100, 29, 97, 125, 126]) := by
  refine ⟨by decide +kernel, by decide +kernel, by decide +kernel, fun k => by simp [isModifierKey]⟩

/-! ## (2) the odometer -/

/-- C13, combinations: for every list of quantities that are all ≥ 1, collecting `MultiplyIter`
(the fuelled iteration of the exact `next()` body, with the fuel the model gives it) succeeds and
yields `cart qs`, where
* a tuple is in `cart qs` iff it has one index per quantity, each below its quantity,
* `cart qs` is strictly increasing in odometer order with the FIRST index fastest (`colexLt`:
  compare at the last differing position), in particular it lists each tuple once,
* `cart [] = [[]]` (no aliases: one combination), and it has `∏ qs` elements. -/
theorem C13_multiply (qs : List Nat) (h : ∀ q ∈ qs, 1 ≤ q) :
    Convert.multiply qs = Outcome.ok (Convert.cart qs) ∧
    (∀ t, t ∈ Convert.cart qs ↔
      t.length = qs.length ∧ ∀ (i q : Nat), qs[i]? = some q → ∃ n : Nat, t[i]? = some n ∧ n < q) ∧
    (Convert.cart qs).Pairwise Convert.colexLt ∧ (Convert.cart qs).Nodup ∧
    (Convert.cart qs).length = Convert.product qs ∧ Convert.cart [] = [[]] :=
  ⟨Convert.multiply_eq_cart qs fun q hq => by have := h q hq; omega, fun _ => Convert.mem_cart,
    Convert.pairwise_cart qs, Convert.nodup_cart qs, Convert.length_cart qs, rfl⟩

/-- the repository's own test: `multiply [2,2]` is `[[0,0],[1,0],[0,1],[1,1]]` -/
example : Convert.multiply [2, 2] = Outcome.ok [[0, 0], [1, 0], [0, 1], [1, 1]] := by decide
example : Convert.multiply [] = Outcome.ok [[]] := by decide
example : Convert.multiply [3, 1, 2] = Outcome.ok [[0,0,0],[1,0,0],[2,0,0],[0,0,1],[1,0,1],[2,0,1]] := by decide
/-- the hypothesis is needed: with a quantity 0 the Rust code computes `0usize - 1` -/
example : Convert.multiply [2, 0] = Outcome.panic := by decide

/-! ## (3) equivalent spellings -/

open Parse in
/-- `"from": X` and `"from": [X]` parse identically (X a string or a `{"row": …}` object) -/
theorem C13_spelling_from (v : Json) (h : ∀ xs, v ≠ Json.arr xs) : parseFrom (Json.arr [v]) = parseFrom v := by
  cases v with
  | arr xs => exact absurd rfl (h xs)
  | null => rfl
  | bool b => rfl
  | num n => rfl
  | str s => simp [parseFrom, parseFromModifiers, mapM]
  | obj kvs => simp [parseFrom, parseFromModifiers, mapM]

open Parse in
/-- `"to": X` and `"to": [X]` parse identically for single and alias mappings -/
theorem C13_spelling_to (v : Json) (h : ∀ xs, v ≠ Json.arr xs) :
    parseSingleOrAliasTo (Json.arr [v]) = parseSingleOrAliasTo v := by
  cases v with
  | arr xs => exact absurd rfl (h xs)
  | null => rfl
  | bool b => rfl
  | num n => rfl
  | obj kvs => rfl
  | str s =>
    simp only [parseSingleOrAliasTo, parseSingleOrAliasToArray, List.length_singleton, List.getLast?_singleton,
      unwrapO_some, bind_ok, List.dropLast_singleton]
    cases parseSingleOrAliasToTerminal (Json.str s) with
    | ok t => cases t <;> simp [parseToInitial, parseAliasToInitial, mapM]
    | error => rfl
    | panic => rfl

open Parse in
/-- the `keys` of a special repeat of a single mapping: `X` and `[X]` parse identically -/
theorem C13_spelling_keys (v : Json) (h : ∀ xs, v ≠ Json.arr xs) : parseSingleTo (Json.arr [v]) = parseSingleTo v := by
  cases v with
  | arr xs => exact absurd rfl (h xs)
  | null => rfl
  | bool b => rfl
  | num n => rfl
  | obj kvs => rfl
  | str s => simp [parseSingleTo, parseSingleToArray, parseToInitial, mapM]

open Parse in
/-- `"to": {"letters": …}` and `"to": [{"letters": …}]` (also as the `keys` of a special row repeat)
parse identically -/
theorem C13_spelling_row_to (v : Json) (h : ∀ xs, v ≠ Json.arr xs) : parseRowTo (Json.arr [v]) = parseRowTo v := by
  cases v with
  | arr xs => exact absurd rfl (h xs)
  | null => rfl
  | bool b => rfl
  | num n => rfl
  | str s => rfl
  | obj kvs => simp [parseRowTo, parseRowToArray, parseToInitial, mapM]

open Parse in
/-- `"absorbing": "X"` and `"absorbing": ["X"]` parse identically -/
theorem C13_spelling_absorbing (s : List Char) :
    parseAbsorbing (some (Json.arr [Json.str s])) = parseAbsorbing (some (Json.str s)) := by
  simp only [parseAbsorbing, mapM, parseAbsorbingElem]
  cases parseModifier s <;> rfl

namespace Parse

theorem asciiUpper_asciiLower (c : Char) : asciiUpper (asciiLower c) = asciiUpper c := by
  unfold asciiLower
  split
  · rename_i h
    have hlt : c.toNat + 32 < 128 := by omega
    unfold asciiUpper
    rw [toNat_ofNat_ascii _ hlt]
    have h1 : 97 ≤ c.toNat + 32 ∧ c.toNat + 32 ≤ 122 := by omega
    have h2 : ¬ (97 ≤ c.toNat ∧ c.toNat ≤ 122) := by omega
    simp only [h1, h2, and_self, if_true, if_false, Nat.add_sub_cancel]
    exact Char.ofNat_toNat c
  · rfl

theorem asciiLower_asciiLower (c : Char) : asciiLower (asciiLower c) = asciiLower c := by
  by_cases h : 65 ≤ c.toNat ∧ c.toNat ≤ 90
  · have hlt : c.toNat + 32 < 128 := by omega
    have h2 : ¬ (65 ≤ c.toNat + 32 ∧ c.toNat + 32 ≤ 90) := by omega
    have e : asciiLower c = Char.ofNat (c.toNat + 32) := by simp only [asciiLower, h, and_self, if_true]
    rw [e]
    unfold asciiLower
    rw [toNat_ofNat_ascii _ hlt, if_neg h2]
  · have e : asciiLower c = c := by simp only [asciiLower, h, if_false]
    rw [e, e]

theorem upperStr_lowerStr (s : List Char) : upperStr (lowerStr s) = upperStr s := by
  simp [upperStr, lowerStr, asciiUpper_asciiLower]

theorem lowerStr_lowerStr (s : List Char) : lowerStr (lowerStr s) = lowerStr s := by
  simp [lowerStr, asciiLower_asciiLower]

end Parse

open Parse in
/-- row names in any ASCII case: two names that differ only in ASCII case name the same row -/
theorem C13_spelling_row_case (s s' : List Char) (h : lowerStr s = lowerStr s') : parseRow s = parseRow s' := by
  have : upperStr s = upperStr s' := by rw [← upperStr_lowerStr s, h, upperStr_lowerStr]
  simp only [parseRow, this]

open Parse in
/-- "normal" / "disabled" in any ASCII case, for single, repeat-only and row mappings -/
theorem C13_spelling_repeat_case (s s' : List Char) (h : lowerStr s = lowerStr s') :
    parseSingleRepeat (some (Json.str s)) = parseSingleRepeat (some (Json.str s')) ∧
    parseRowRepeat (some (Json.str s)) = parseRowRepeat (some (Json.str s')) := by
  simp only [parseSingleRepeat, parseRowRepeat, h, and_self]

open Parse in
example : parseRow ['q'] = ok Fancy.Row.q ∧ parseRow ['Q'] = ok Fancy.Row.q := by decide
open Parse in
example : parseSingleRepeat (some (Json.str ['D','i','S','A','B','L','E','D'])) = ok Fancy.SingleRepeat.disabled := by
  decide
open Parse in
/-- a one-element array and the bare string: both are the trigger `A` -/
example : parseFrom (Json.arr [Json.str ['A']]) = parseFrom (Json.str ['A']) :=
  C13_spelling_from _ (by intro xs h; cases h)

/-! ## (4) the declarative expansion -/

/-- the full statement of "shorthands mean exactly their hand-written expansion", kept visible -/
def C13_spec_statement : Prop := ∀ F : Fancy.Layout, convert F = Expand.expand F

/-- C13: for EVERY fancy layout (parse-produced or not), the imperative conversion — odometer,
index arithmetic, hash tables, in-place mutation — returns exactly what the declarative expansion of
`Model/Expand.lean` says: per source mapping in source order; per choice of alias definitions, first
slot fastest; per non-space letter; Shift by the table, right Shift if the trigger has right Shift;
output aliases replaced by the trigger-side choice; then the repeat-only entries by trigger SET;
then the duplicate check.  Errors included (an error on one side is an error on the other).
No hypothesis. -/
theorem C13_spec : C13_spec_statement := Convert.convert_eq_expand

/-- the same for the loader as a whole -/
theorem C13_load (j : Json) : load j = Expand.loadSpec j := by
  unfold load Expand.loadSpec
  congr 1
  funext F
  exact C13_spec F

/-- "converts to the same basic mappings as the layout with every shorthand written out by hand":
if the expansion of `F` is the basic layout `L`, then `F` and the layout that spells every mapping
of `L` out as a plain single mapping (`toFancy`: no rows, no aliases, no repeat-only entries) convert
to the same thing, namely `L`.  (`aliasFromNonempty`: alias definitions have a key — guaranteed by
the parser; needed because a mapping with an empty trigger cannot be written by hand.) -/
theorem C13_handwritten {F : Fancy.Layout} (hF : Fancy.aliasFromNonempty F = true) {L : Layout}
    (h : Expand.expand F = Outcome.ok L) :
    convert F = Outcome.ok L ∧ convert (L.map toFancy) = Outcome.ok L := by
  have hc : convert F = Outcome.ok L := by rw [C13_spec F]; exact h
  exact ⟨hc, by rw [C13_spec]; exact Expand.expand_toFancy (convert_wf hF hc)⟩

/-- source order: the mappings of the first pass are the expansions of the source mappings,
concatenated in source order (this is the definition of `expand`; stated for the record) -/
theorem C13_source_order (F : Fancy.Layout) {groups : List (List Mapping)}
    {entries : List (List (List Key × Repeat))}
    (hg : Outcome.mapM (Expand.expandMapping F) F = Outcome.ok groups)
    (he : Outcome.mapM (Expand.repeatOnlyEntries F) F = Outcome.ok entries) :
    convert F =
      (let res := entries.flatten.foldl (Expand.applyRepeat groups.flatten.length) groups.flatten
       if res.all (fun m => decide m.frm.Nodup && decide m.to.Nodup) then Outcome.ok res else Outcome.error) := by
  rw [C13_spec F]
  simp only [Expand.expand, hg, he, bind_ok]

/-! ### concrete instances -/

/-- the easy-symbols fragment of `Props/C14.lean`, as a fancy layout -/
def easySymbolsFancy : Fancy.Layout := [
  Fancy.Mapping.alias ⟨⟨[58]⟩, ⟨[], ['@','s','y','m','b','o','l']⟩⟩,      -- CAPSLOCK → @symbol
  Fancy.Mapping.alias ⟨⟨[100]⟩, ⟨[], ['@','s','y','m','b','o','l']⟩⟩,     -- RIGHTALT → @symbol
  Fancy.Mapping.row ⟨⟨[Fancy.Modifier.alias ['@','s','y','m','b','o','l']], Fancy.Row.q⟩,
    ⟨[], [' ','{','}','%',' ','\\','*',']','[','|','~']⟩, Fancy.RowRepeat.normal, []⟩]

example : parseLayoutFromJson easySymbolsFragment = Outcome.ok easySymbolsFancy := by decide +kernel

/-- its expansion: 1 + 2 × 9 = 19 mappings, CAPSLOCK's nine before RIGHTALT's nine -/
example : (match Expand.expand easySymbolsFancy with | Outcome.ok L => L.length | _ => 0) = 19 := by decide +kernel
example : Expand.expand easySymbolsFancy = convert easySymbolsFancy := (C13_spec _).symm

/-- right Shift, a repeat-only entry naming the trigger in another order, and one adding an identity
mapping:
`[RIGHTSHIFT, LEFTCTRL, {row A}] → {letters "aB"}`, `[LEFTCTRL, RIGHTSHIFT, S] repeat Disabled`,
`[LEFTCTRL, F] repeat Disabled` -/
example : Expand.expand [
    Fancy.Mapping.row ⟨⟨[Fancy.Modifier.key 54, Fancy.Modifier.key 29], Fancy.Row.a⟩, ⟨[], ['a','B']⟩,
      Fancy.RowRepeat.normal, []⟩,
    Fancy.Mapping.repeatOnly ⟨⟨[Fancy.Modifier.key 29, Fancy.Modifier.key 54], 31⟩, Fancy.SingleRepeat.disabled⟩,
    Fancy.Mapping.repeatOnly ⟨⟨[Fancy.Modifier.key 29], 33⟩, Fancy.SingleRepeat.disabled⟩] =
  Outcome.ok [⟨[54, 29, 30], [30], Repeat.normal, []⟩,
              ⟨[54, 29, 31], [54, 48], Repeat.disabled, []⟩,
              ⟨[29, 33], [29, 33], Repeat.disabled, []⟩] := by decide +kernel

end TmVerif
