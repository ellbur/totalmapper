/-
C09 — Custom-repeat requests are issued and cancelled at exactly the right steps.

"A step asks the event loop to start repeating exactly when the mapping it fired has a Special
repeat, and then with exactly that mapping's repeat keys, delay and interval.  Every other key
press or release that the mapper acts on cancels repeating; events it ignores (press of a key it
already considers held, release of a key it does not consider held) leave the repeat state
unchanged."

Quantifier: every layout, every history, every step.
-/
import TmVerif.Props.C02

namespace TmVerif

/-- the repeat request of a step, for EVERY state, reachable or not -/
theorem C09_all (L : Layout) (s : State) (e : Event) :
    (step L s e).2.rep =
      match e with
      | Event.released k => if k ∈ s.inp then RRepeat.disabled else RRepeat.noChange
      | Event.pressed k =>
        if k ∈ s.inp then RRepeat.noChange
        else match findMapping L s k with
          | some m => repeatOf m
          | none => RRepeat.disabled := by
  rcases step_cases L s e with ⟨hi, hs⟩ | ⟨k, rfl, hk, hs⟩ | ⟨k, m, rfl, hk, hf, hs⟩ | ⟨k, rfl, hk, hf, _, hs⟩ |
    ⟨k, rfl, hk, hf, _, hs⟩ <;> rw [hs]
  · cases e <;> simp only [ignored] at hi <;> simp [hi]
  · simp [hk]
  all_goals simp [hk, hf]

/-- ignored events: no output, `NoChange`, state untouched — for EVERY state, reachable or not -/
theorem C09_ignored (L : Layout) (s : State) (e : Event)
    (hign : match e with
      | Event.pressed k => k ∈ s.inp
      | Event.released k => k ∉ s.inp) :
    step L s e = (s, ⟨[], RRepeat.noChange⟩) :=
  step_ignored (by cases e <;> exact hign)

/-- accepted release: `Disabled` — for every state -/
theorem C09_release (L : Layout) (s : State) (k : Key) (hk : k ∈ s.inp) :
    (step L s (Event.released k)).2.rep = RRepeat.disabled := by
  simp [C09_all, hk]

/-- accepted press: `Repeating` with exactly the fired mapping's parameters if it is Special, else `Disabled`
(`C09_all`: the state need not be reachable) -/
theorem C09_press (L : Layout) (x : Sys) (hx : Reachable L x) (k : Key) (hk : k ∉ x.s.inp) :
    (step L x.s (Event.pressed k)).2.rep =
      match findMapping L x.s k with
      | some m => repeatOf m
      | none => RRepeat.disabled := by
  have _ := hx
  simp [C09_all, hk]

theorem C09_monitor (L : Layout) (x : Sys) (hx : Reachable L x) (e : Event) :
    monC09 (x.obs L e) = true := by
  cases e with
  | released k =>
    by_cases hk : k ∈ x.s.inp
    · have := C09_release L x.s k hk
      simp [monC09, Obs.accepted, Sys.obs, hk, this]
    · have := C09_ignored L x.s (Event.released k) hk
      simp [monC09, Obs.accepted, Sys.obs, hk, this]
  | pressed k =>
    by_cases hk : k ∈ x.s.inp
    · have := C09_ignored L x.s (Event.pressed k) hk
      simp [monC09, Obs.accepted, Sys.obs, hk, this]
    · have h1 := C09_press L x hx k hk
      have h2 := fired_eq hx.sinv k hk
      have hacc : (x.obs L (Event.pressed k)).accepted = true := by simp [Obs.accepted, Sys.obs, hk]
      simp only [monC09, hacc, Bool.not_true, Bool.false_eq_true, if_false, h2]
      have hrep : (x.obs L (Event.pressed k)).rep = (step L x.s (Event.pressed k)).2.rep := rfl
      have he : (x.obs L (Event.pressed k)).e = Event.pressed k := rfl
      rw [hrep, h1, he]
      cases hf : findMapping L x.s k with
      | none => simp
      | some m =>
        simp only [repeatOf]
        cases m.rep <;> simp

/-! Non-vacuity: unit-test layout `custom_repeat_test_1`: pressing B requests repeating of [C] after
130 ms every 30 ms; releasing B cancels; a duplicate press of a held key changes nothing. -/
example :
    let L : Layout := [⟨[30], [30], Repeat.disabled, []⟩, ⟨[48], [48], Repeat.special [46] 130 30, []⟩]
    (step L State.init (Event.pressed 48)).2.rep = RRepeat.repeating [46] 130 30 ∧
    (step L (step L State.init (Event.pressed 48)).1 (Event.pressed 48)).2.rep = RRepeat.noChange ∧
    (step L (step L State.init (Event.pressed 48)).1 (Event.released 48)).2.rep = RRepeat.disabled := by
  decide

end TmVerif
