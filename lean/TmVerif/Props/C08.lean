/-
C08 — An absorbed modifier applies to one keystroke only.

"After a mapping that absorbs modifier M fires, and for as long as M stays held without being pressed
again, no press of a key other than the one that triggered it fires a mapping requiring M, and
whenever such a press puts a non-modifier key on the virtual keyboard M is not down there (unless a
mapping in effect outputs M).  Pressing the same trigger key again before any other key, with the
same keys held, fires the same mapping again.  M counts again once it has been released and pressed
again."

FULL STATEMENT: the trace monitor `monC08` (Monitors.lean) with ghost obligations `(M, t, m, held, fresh)`
accepts every step of every history of every layout — `C08_statement` (sentences 1–3 of the property;
sentence 4, "M counts again …", is not in the monitor: it is `C08_pressed_again` /
`C08_absorbed_only_by_firing` / `C08_counts` below).

PROVED IN FULL (`C08_full : C08_statement`) since the fix of finding D6.  D6 was: `absorbing_trigger` is ONE slot
for the whole list `mapped_absorbed_keys`, and `add_new_mapping` ran `release_absorbed_keys` only
`if produces_action_key(m)`; an absorbing mapping that is not key-producing, fired under a different trigger,
overwrote the slot while the previously absorbed key stayed in the list, so re-pressing the NEW trigger exempted
the OLD absorbed key too.  The fix runs `release_absorbed_keys` (and the consumption after it)
`if should_absorb && (produces_action_key(m) || m.absorbing.len() > 0)`; invariant restored: every key in
`mapped_absorbed_keys` was absorbed under the current `absorbing_trigger`.  `C08_d6_fixed` replays the former
counterexample (`d6Layout`, `d6History`): the formerly violating press fires nothing, the monitor accepts.

  H2 (NO LONGER A HYPOTHESIS since the fix of D6; still defined, reported by the driver request `H12`): every
      mapping with a non-empty absorbing list is key-producing (its last output key is a non-modifier).
  H1 (NO LONGER A HYPOTHESIS since the fix of finding D7; still defined and reported by the driver request
      `H12`): a mapping that is not key-producing (its output is empty or ends in a modifier) outputs modifiers
      only — implied by "all output keys before the last are modifiers" (`H1_of_canonical`), and exactly the
      negation of what finding D7 needed.  D7 was: `add_new_mapping` entered its "release action mappings /
      release absorbed keys" block only `if is_action_mapping(m)` (last output key a non-modifier); the fix
      enters it `if produces_action_key(m)` (any output key a non-modifier).  `C08_d7_fixed` replays the former
      counterexample: the monitor accepts, the absorbed key is released before Z goes down.
All built-in layouts, README examples and unit-test layouts satisfy H1 ∧ H2 (nothing changes for them).

The three clauses, each for EVERY layout, every history, every step:
  (i)   `C08_i`: while an obligation (M, t) is pending, no accepted press of a key other
        than t fires a mapping that has M in its trigger; via the invariant `OblInv` (`Reachable8.oblInv'`): a
        pending obligation's M is still absorbed with absorbing_trigger = t, or is no longer an input key;
  (ii)  `C08_ii`: at every press of a non-modifier key by such a step M is not down on
        the virtual keyboard, unless a mapping in effect after the step outputs M;
  (iii) `C08_iii`: re-pressing t before any other key with the same keys held fires the
        same mapping; via the invariant `FreshInv` (`Reachable8.freshInv'`): while the held set is the one of the
        firing, absorbing_trigger = t and the selection predicate of a re-press is the one of the firing.
The former names (`C08_partial'`, `C08_partial`, `C08_partial_i`, `C08_partial_ii'`, `C08_partial_ii`,
`C08_partial_iii`, `OblOk.step`, `OblInv.next`, `fire_suppNow`, `FreshInv.next`, `Reachable8.oblInv`,
`Reachable8.freshInv`) are kept with their signatures as corollaries that ignore `h1` / `h2`.
-/
import TmVerif.Proofs.Compat
import TmVerif.Proofs.Inert

namespace TmVerif

def H1 (L : Layout) : Prop := ∀ m, m ∈ L → isActionMapping m = false → ∀ y, y ∈ m.to → isActionKey y = false
def H2 (L : Layout) : Prop := ∀ m, m ∈ L → m.absorbing ≠ [] → isActionMapping m = true

/-- the Bool forms the monitor uses to decide whether a layout is inside the theorem's scope -/
theorem H1_iff (L : Layout) : H1 L ↔ layoutH1 L = true := by
  simp only [H1, layoutH1, List.all_eq_true, Bool.or_eq_true, Bool.not_eq_eq_eq_not, Bool.not_true]
  constructor
  · intro h m hm
    cases ha : isActionMapping m with
    | true => exact Or.inl rfl
    | false => exact Or.inr (fun y hy => h m hm ha y hy)
  · intro h m hm ha y hy
    rcases h m hm with h' | h'
    · rw [ha] at h'; exact absurd h' (by simp)
    · exact h' y hy

/-- the hypothesis as first stated (all output keys before the last are modifiers) implies H1 -/
theorem H1_of_canonical (L : Layout) (h : ∀ m, m ∈ L → ∀ y, y ∈ m.to.dropLast → isActionKey y = false) : H1 L := by
  intro m hm ha y hy
  cases hl : m.to.getLast? with
  | none => have : m.to = [] := List.getLast?_eq_none_iff.mp hl; rw [this] at hy; simp at hy
  | some kl =>
    have hne : m.to ≠ [] := by intro e; simp [e] at hl
    have hkl : isActionKey kl = false := by simpa [isActionMapping, hl] using ha
    have hsplit := List.dropLast_concat_getLast hne
    have hlast : m.to.getLast hne = kl := by
      have := List.getLast?_eq_some_getLast hne; rw [hl] at this; exact (Option.some.inj this).symm
    rw [← hsplit, hlast] at hy
    simp only [List.mem_append, List.mem_singleton] at hy
    rcases hy with h' | h'
    · exact h m hm y h'
    · rw [h']; exact hkl

theorem H2_iff (L : Layout) : H2 L ↔ layoutH2 L = true := by
  simp only [H2, layoutH2, List.all_eq_true, Bool.or_eq_true, List.isEmpty_iff]
  constructor
  · intro h m hm
    by_cases he : m.absorbing = []
    · exact Or.inl he
    · exact Or.inr (h m hm he)
  · intro h m hm hne
    rcases h m hm with h | h
    · exact absurd h hne
    · exact h

/-- mapper + ghost history summary + pending obligations -/
structure Sys8 where
  x : Sys
  obls : List Obl

def Sys8.init : Sys8 := ⟨Sys.init, []⟩

def Sys8.next (L : Layout) (y : Sys8) (e : Event) : Sys8 :=
  ⟨y.x.next L (Op.ev e), nextObls (y.x.obs L e) y.obls⟩

def Sys8.run (L : Layout) (y : Sys8) (evs : List Event) : Sys8 := evs.foldl (Sys8.next L) y

def Reachable8 (L : Layout) (y : Sys8) : Prop := ∃ evs, y = Sys8.run L Sys8.init evs

/-- the full statement -/
def C08_statement : Prop :=
  ∀ (L : Layout) (y : Sys8), Reachable8 L y → ∀ e, monC08 (y.x.obs L e) y.obls = []

theorem Reachable8.reachableEv {L : Layout} {y : Sys8} (h : Reachable8 L y) : ReachableEv L y.x := by
  obtain ⟨evs, rfl⟩ := h
  refine ⟨evs, ?_⟩
  suffices ∀ (z : Sys8), (Sys8.run L z evs).x = Sys.run L z.x (evs.map Op.ev) from this Sys8.init
  induction evs with
  | nil => exact fun _ => rfl
  | cons e es ih => intro z; simp only [Sys8.run, List.foldl_cons, List.map_cons, Sys.run]; exact ih (z.next L e)

/-- the invariant of a pending obligation -/
def OblOk (s : State) (ob : Obl) : Prop :=
  (ob.M ∈ s.absorbed ∧ s.absTrig = some ob.t) ∨ ob.M ∉ s.inp

def OblInv (y : Sys8) : Prop := ∀ ob, ob ∈ y.obls → OblOk y.x.s ob

/-! ### what an accepted press does to the auxiliary fields -/

/-- (restated with the fix of D7: the block of phase 2 runs when `producesActionKey m`, it was
`isActionMapping m`; restated with the fix of D6: `release_absorbed_keys` runs iff `absorbsNow s k m`, i.e.
`should_absorb` and the mapping produces an action key OR is absorbing) -/
theorem addPhase2_aux_fields (s : State) (k : Key) (m : Mapping) :
    (absorbsNow s k m = true ∧ shouldAbsorb s k = true ∧
      (addPhase2 s k m).1.absorbed = [] ∧ (addPhase2 s k m).1.absTrig = none ∧
      (∀ x, x ∈ (addPhase2 s k m).1.inp ↔ x ∈ s.inp ∧ x ∉ s.absorbed)) ∨
    (absorbsNow s k m = false ∧
      (addPhase2 s k m).1.absorbed = s.absorbed ∧ (addPhase2 s k m).1.absTrig = s.absTrig ∧
      (addPhase2 s k m).1.inp = s.inp) := by
  cases hb : absorbsNow s k m
  · right; simp [hb]
  · left; simpa [hb] using ((absorbsNow_true_iff s k m).mp hb).1

theorem mem_addAbsorbed_left (a b : List Key) (x : Key) (h : x ∈ a) : x ∈ addAbsorbed a b := by
  induction b generalizing a with
  | nil => exact h
  | cons y b ih => simp only [addAbsorbed]; split; exact ih a h; exact ih _ (by simp [h])

theorem mem_addAbsorbed_right (a b : List Key) (x : Key) (h : x ∈ b) : x ∈ addAbsorbed a b := by
  induction b generalizing a with
  | nil => simp at h
  | cons y b ih =>
    simp only [addAbsorbed]
    rcases List.mem_cons.mp h with rfl | h
    · split
      · rename_i hc; exact mem_addAbsorbed_left _ _ _ (by simpa using hc)
      · exact mem_addAbsorbed_left _ _ _ (by simp)
    · split; exact ih a h; exact ih _ h

/-- clause (i) at the level of one state: an absorbed key that is not exempted by the trigger cannot be
required by the mapping a press fires; nor can a key that is not an input key -/
theorem fired_not_requiring {L : Layout} {s : State} {k : Key} {fm : Mapping} (hf : findMapping L s k = some fm)
    (M : Key) (hMk : M ≠ k)
    (h : (M ∈ s.absorbed ∧ s.absTrig ≠ some k) ∨ M ∉ s.inp) : M ∉ fm.frm := by
  intro hM
  rcases (findMapping_some hf).2.2 M hM with h1 | h1
  · rcases h with ⟨ha, ht⟩ | hn
    · have hsa : shouldAbsorb (pressPrep s k) k = true := by
        simp only [shouldAbsorb, pressPrep]
        cases hat : s.absTrig with
        | none => rfl
        | some t => simp only [bne_iff_ne, ne_eq]; intro e; exact ht (by rw [hat, e])
      exact h1.2 hsa (by simp [pressPrep, ha, hMk])
    · exact hn h1.1
  · exact hMk h1

/-- preservation of one obligation's invariant by a step about another key — EVERY layout (since the fix of D6;
it needed H2 before) -/
theorem OblOk.step' {L : Layout} {P : List Key} {s : State} (hinv : Inv L P s) (ob : Obl)
    (hok : OblOk s ob) (e : Event) (hne : ob.M ≠ e.key) :
    OblOk (TmVerif.step L s e).1 ob ∨
      -- unless this very step fires a mapping that absorbs M again (then a new obligation replaces it)
      (∃ k fm, e = Event.pressed k ∧ k ∉ s.inp ∧ findMapping L s k = some fm ∧ ob.M ∈ fm.absorbing) := by
  cases e with
  | released k =>
    left
    by_cases hk : k ∈ s.inp
    · rw [step_released_accepted L s k hk]
      have hst : (newlyRelease s k).1 = (releaseKey s k).1 := rfl
      rw [hst]
      rcases hok with ⟨ha, ht⟩ | hn
      · exact Or.inl ⟨by simpa using ha, by simpa using ht⟩
      · exact Or.inr (fun hx => hn (by simp at hx; exact hx.1))
    · rw [step_released_ignored L s k hk]; exact hok
  | pressed k =>
    have hMk : ob.M ≠ k := hne
    by_cases hk : k ∈ s.inp
    · left; rw [step_pressed_ignored L s k hk]; exact hok
    · rw [step_pressed_accepted L s k hk]
      have h0 := pressPrep_iinv k hinv.i
      -- the obligation at the prepared state
      have hok0 : OblOk (pressPrep s k) ob := by
        rcases hok with ⟨ha, ht⟩ | hn
        · exact Or.inl ⟨by simp [pressPrep, ha, hMk], ht⟩
        · exact Or.inr hn
      cases hf : findMapping L s k with
      | some fm =>
        by_cases hab : ob.M ∈ fm.absorbing
        · exact Or.inr ⟨k, fm, rfl, hk, hf, hab⟩
        · left
          have fin := newlyPress_fire_finish hf
          rw [fin.1]
          have ff := finishFire_ctl (addPhase2 (afterConsume (pressPrep s k) fm) k fm).1 k fm
          have c1 := (consume_spec (pressPrep s k) fm h0).1
          have p2 := addPhase2_aux_fields (afterConsume (pressPrep s k) fm) k fm
          have hfmL := (findMapping_some hf).1
          rcases p2 with ⟨_, _, _, _, hinp2⟩ | ⟨hnot, habs2, htrig2, hinp2⟩
          · -- release_absorbed_keys ran: M is no longer an input key (if it was absorbed), or never was
            right
            rw [ff.1]
            intro hx
            simp only [List.mem_append, List.mem_singleton] at hx
            rcases hx with hx | hx
            · have := (hinp2 ob.M).mp hx
              rcases hok0 with ⟨ha, _⟩ | hn
              · exact this.2 ha
              · exact hn this.1
            · exact hMk hx
          · rcases hok0 with ⟨ha, ht⟩ | hn
            · left
              refine ⟨by rw [ff.2.2.1, habs2]; exact mem_addAbsorbed_left _ _ _ ha, ?_⟩
              rw [ff.2.2.2, htrig2]
              by_cases hmm : fm.absorbing.length > 0
              · -- an absorbing mapping fired and release_absorbed_keys did not run: since the fix of D6 that
                -- happens only if `should_absorb` is false, i.e. the trigger is the pending one
                have hne' : fm.absorbing ≠ [] := by intro e; simp [e] at hmm
                have hsa : shouldAbsorb (afterConsume (pressPrep s k) fm) k = false := by
                  rcases (absorbsNow_false_iff _ _ _).mp hnot with hh | hh
                  · exact hh
                  · exact absurd hh.2 hne'
                have : (afterConsume (pressPrep s k) fm).absTrig = some k := by
                  simp only [shouldAbsorb] at hsa
                  cases hat : (afterConsume (pressPrep s k) fm).absTrig with
                  | none => simp only [hat] at hsa; cases hsa
                  | some t => simp only [hat, bne_eq_false_iff_eq] at hsa; rw [hsa]
                have ht' : (afterConsume (pressPrep s k) fm).absTrig = some ob.t := ht
                simp only [hmm, if_true]
                rw [this] at ht'; exact ht'
              · simp only [hmm, if_false]; exact ht
            · right
              rw [ff.1, hinp2]
              intro hx
              simp only [List.mem_append, List.mem_singleton] at hx
              rcases hx with hx | hx
              · exact hn hx
              · exact hMk hx
      | none =>
        left
        cases hc : noHit s k with
        | false =>
          rw [newlyPress_skip hf hc]
          rcases hok0 with ⟨ha, ht⟩ | hn
          · exact Or.inl ⟨ha, ht⟩
          · exact Or.inr (by intro hx; simp at hx; rcases hx with hx | hx; exact hn hx; exact hMk hx)
        | true =>
          rw [newlyPress_pass hf hc]
          cases hak : isActionKey k with
          | false =>
            rw [passThrough_nonaction _ k hak]
            rcases hok0 with ⟨ha, ht⟩ | hn
            · exact Or.inl ⟨ha, ht⟩
            · exact Or.inr (by intro hx; simp at hx; rcases hx with hx | hx; exact hn hx; exact hMk hx)
          | true =>
            rw [passThrough_action _ k hak]
            right
            intro hx
            simp only [List.mem_append, List.mem_singleton] at hx
            rcases hx with hx | hx
            · have : ob.M ∈ (pressPrep s k).inp ∧ ob.M ∉ (pressPrep s k).absorbed := by
                simpa only [releaseAbsorbedKeys_ctl, releaseActionMappings_ctl, List.mem_filter, List.contains_eq_mem,
                  Bool.not_eq_eq_eq_not, Bool.not_true, decide_eq_false_iff_not] using hx
              rcases hok0 with ⟨ha, _⟩ | hn
              · exact this.2 ha
              · exact hn this.1
            · exact hMk hx


/-- `OblOk.step'` with its former signature: the hypothesis H2 is no longer used (fix of D6) -/
theorem OblOk.step {L : Layout} (h2 : H2 L) {P : List Key} {s : State} (hinv : Inv L P s) (ob : Obl)
    (hok : OblOk s ob) (e : Event) (hne : ob.M ≠ e.key) :
    OblOk (TmVerif.step L s e).1 ob ∨
      (∃ k fm, e = Event.pressed k ∧ k ∉ s.inp ∧ findMapping L s k = some fm ∧ ob.M ∈ fm.absorbing) :=
  have _ := h2
  OblOk.step' hinv ob hok e hne

/-! ### the invariant over histories and clause (i) -/

theorem mem_nextObls {o : Obs} {obls : List Obl} {ob : Obl} (h : ob ∈ nextObls o obls) :
    (∃ ob0, ob0 ∈ obls ∧ ob0.M = ob.M ∧ ob0.t = ob.t ∧ ob0.M ≠ o.e.key ∧
      (∀ fm, o.fired = some fm → o.accepted = true → (∃ k, o.e = Event.pressed k) → ob.M ∉ fm.absorbing)) ∨
    (∃ k fm, o.e = Event.pressed k ∧ o.accepted = true ∧ o.fired = some fm ∧ ob.M ∈ fm.absorbing ∧ ob.t = k) := by
  unfold nextObls at h
  cases he : o.e with
  | released k =>
    simp only [he] at h
    simp only [List.mem_filter, bne_iff_ne, ne_eq] at h
    exact Or.inl ⟨ob, h.1, rfl, rfl, by simpa [he, Event.key] using h.2, by intro fm _ _ ⟨k', hk'⟩; simp [he] at hk'⟩
  | pressed k =>
    simp only [he] at h
    cases hacc : o.accepted with
    | false =>
      simp only [hacc, Bool.not_false, if_true, List.mem_filter, bne_iff_ne, ne_eq] at h
      exact Or.inl ⟨ob, h.1, rfl, rfl, by simpa [he, Event.key] using h.2, by intro fm _ hc; simp at hc⟩
    | true =>
      simp only [hacc, Bool.not_true, Bool.false_eq_true, if_false] at h
      cases hf : o.fired with
      | none =>
        simp only [hf, List.mem_map, List.mem_filter, bne_iff_ne, ne_eq] at h
        obtain ⟨ob0, ⟨hm, hne⟩, heq⟩ := h
        refine Or.inl ⟨ob0, hm, ?_, ?_, by simpa [he, Event.key] using hne, by intro fm hfm; simp at hfm⟩
        · split at heq <;> (subst heq; rfl)
        · split at heq <;> (subst heq; rfl)
      | some fm =>
        simp only [hf, List.mem_append, List.mem_filter, List.mem_map, bne_iff_ne, ne_eq] at h
        rcases h with ⟨⟨ob0, ⟨hm, hne⟩, heq⟩, hnab⟩ | ⟨M, hM, heq⟩
        · left
          have h1 : ob0.M = ob.M ∧ ob0.t = ob.t := by split at heq <;> (subst heq; exact ⟨rfl, rfl⟩)
          refine ⟨ob0, hm, h1.1, h1.2, by simpa [he, Event.key] using hne, ?_⟩
          intro fm' hfm' _ _
          simp only [Option.some.injEq] at hfm'; subst hfm'
          simpa using hnab
        · right
          subst heq
          exact ⟨k, fm, rfl, rfl, rfl, hM, rfl⟩

theorem OblInv.next' {L : Layout} {y : Sys8} (hy : Reachable8 L y) (hi : OblInv y) (e : Event) :
    OblInv (y.next L e) := by
  intro ob hob
  have hx := hy.reachableEv.reachable
  have hs := hx.sinv
  simp only [Sys8.next] at hob ⊢
  rcases mem_nextObls hob with ⟨ob0, hm0, hM, ht, hne, hnab⟩ | ⟨k, fm, he, hacc, hfired, hab, htk⟩
  · -- an old obligation that survives
    have hok0 := hi ob0 hm0
    have hok : OblOk y.x.s ob := by
      unfold OblOk at hok0 ⊢; rw [← hM, ← ht]; exact hok0
    have hne' : ob.M ≠ e.key := by rw [← hM]; simpa [Sys.obs] using hne
    rcases OblOk.step' hs.inv ob hok e hne' with h1 | ⟨k, fm, he, hk, hf, hab⟩
    · exact h1
    · -- the step fires a mapping absorbing M again: impossible for a surviving old obligation
      exfalso
      have hfired : (y.x.obs L e).fired = some fm := by rw [he, fired_eq hs k hk]; exact hf
      have hacc : (y.x.obs L e).accepted = true := by simp [he, Obs.accepted, Sys.obs, hk]
      exact hnab fm hfired hacc ⟨k, by simp [he, Sys.obs]⟩ hab
  · -- a new obligation: M was just absorbed on trigger k
    have he' : e = Event.pressed k := by simpa [Sys.obs] using he
    subst he'
    have hk : k ∉ y.x.s.inp := by simpa [Obs.accepted, Sys.obs] using hacc
    have hf : findMapping L y.x.s k = some fm := by rw [← fired_eq hs k hk]; exact hfired
    left
    simp only [Sys.next, step_pressed_accepted L y.x.s k hk]
    have fin := newlyPress_fire_finish hf
    rw [fin.1]
    have ff := finishFire_ctl (addPhase2 (afterConsume (pressPrep y.x.s k) fm) k fm).1 k fm
    refine ⟨by rw [ff.2.2.1]; exact mem_addAbsorbed_right _ _ _ hab, ?_⟩
    rw [ff.2.2.2, htk]
    have : fm.absorbing.length > 0 := by
      cases hh : fm.absorbing with
      | nil => rw [hh] at hab; simp at hab
      | cons a l => simp
    simp [this]

/-- `OblInv.next'` with its former signature (H2 no longer used) -/
theorem OblInv.next {L : Layout} (h2 : H2 L) {y : Sys8} (hy : Reachable8 L y) (hi : OblInv y) (e : Event) :
    OblInv (y.next L e) :=
  have _ := h2
  OblInv.next' hy hi e

/-- the invariant of the pending obligations holds in every reachable state of EVERY layout (fix of D6) -/
theorem Reachable8.oblInv' {L : Layout} {y : Sys8} (hy : Reachable8 L y) : OblInv y := by
  obtain ⟨evs, rfl⟩ := hy
  suffices ∀ (z : Sys8), Reachable8 L z → OblInv z → OblInv (Sys8.run L z evs) from
    this Sys8.init ⟨[], rfl⟩ (by intro ob hob; simp [Sys8.init] at hob)
  induction evs with
  | nil => exact fun z _ h => h
  | cons e es ih =>
    intro z hz hi
    simp only [Sys8.run, List.foldl_cons]
    have hz' : Reachable8 L (z.next L e) := by
      obtain ⟨evs0, rfl⟩ := hz
      exact ⟨evs0 ++ [e], by simp [Sys8.run, List.foldl_append]⟩
    exact ih _ hz' (OblInv.next' hz hi e)

/-- `Reachable8.oblInv'` with its former signature (H2 no longer used) -/
theorem Reachable8.oblInv {L : Layout} (h2 : H2 L) {y : Sys8} (hy : Reachable8 L y) : OblInv y :=
  have _ := h2
  hy.oblInv'

/-- C08 clause (i), for EVERY layout (since the fix of D6), every history, every pending obligation (M, t):
an accepted press of a key other than t (and other than M) never fires a mapping that has M in its
trigger -/
theorem C08_i (L : Layout) (y : Sys8) (hy : Reachable8 L y) (ob : Obl) (hob : ob ∈ y.obls)
    (k : Key) (hk : k ∉ y.x.s.inp) (hkt : k ≠ ob.t) (hkM : k ≠ ob.M)
    (fm : Mapping) (hf : findMapping L y.x.s k = some fm) : ob.M ∉ fm.frm := by
  have hok := hy.oblInv' ob hob
  apply fired_not_requiring hf ob.M (fun e => hkM e.symm)
  rcases hok with ⟨ha, ht⟩ | hn
  · exact Or.inl ⟨ha, by rw [ht]; intro e; exact hkt (Option.some.inj e).symm⟩
  · exact Or.inr hn

/-- `C08_i` with the former name and signature (H2 no longer used) -/
theorem C08_partial_i (L : Layout) (h2 : H2 L) (y : Sys8) (hy : Reachable8 L y) (ob : Obl) (hob : ob ∈ y.obls)
    (k : Key) (hk : k ∉ y.x.s.inp) (hkt : k ≠ ob.t) (hkM : k ≠ ob.M)
    (fm : Mapping) (hf : findMapping L y.x.s k = some fm) : ob.M ∉ fm.frm :=
  have _ := h2
  C08_i L y hy ob hob k hk hkt hkM fm hf

/-- monitor form of clause (i) -/
theorem C08_i_monitor (L : Layout) (y : Sys8) (hy : Reachable8 L y) (ob : Obl) (hob : ob ∈ y.obls)
    (k : Key) (hk : k ∉ y.x.s.inp) (hkt : k ≠ ob.t) (hkM : k ≠ ob.M) :
    c08i (y.x.obs L (Event.pressed k)) ob = true := by
  unfold c08i
  rw [fired_eq hy.reachableEv.reachable.sinv k hk]
  cases hf : findMapping L y.x.s k with
  | none => rfl
  | some fm =>
    have := C08_i L y hy ob hob k hk hkt hkM fm hf
    simpa using this

theorem C08_partial_i_monitor (L : Layout) (h2 : H2 L) (y : Sys8) (hy : Reachable8 L y) (ob : Obl) (hob : ob ∈ y.obls)
    (k : Key) (hk : k ∉ y.x.s.inp) (hkt : k ≠ ob.t) (hkM : k ≠ ob.M) :
    c08i (y.x.obs L (Event.pressed k)) ob = true :=
  have _ := h2
  C08_i_monitor L y hy ob hob k hk hkt hkM

/-! ### clause (ii) (every layout since the fixes of D7 and D6; the variants with `H1` / `H2` arguments no longer use them) -/

theorem noMAtPresses_append (M : Key) (V : List Key) (outM : Bool) (a b : List Event) :
    noMAtPresses M V outM (a ++ b) = (noMAtPresses M V outM a && noMAtPresses M (foldEvs V a) outM b) := by
  induction a generalizing V with
  | nil => simp [noMAtPresses]
  | cons e es ih =>
    cases e with
    | pressed x => simp only [List.cons_append, noMAtPresses, ih, foldEvs_cons, Bool.and_assoc]
    | released x => simp only [List.cons_append, noMAtPresses, ih, foldEvs_cons]

theorem noMAtPresses_releases (M : Key) (V : List Key) (outM : Bool) (evs : List Event)
    (h : ∀ e, e ∈ evs → e.isRelease = true) : noMAtPresses M V outM evs = true := by
  induction evs generalizing V with
  | nil => rfl
  | cons e es ih =>
    cases e with
    | pressed x => have := h (Event.pressed x) (by simp); simp [Event.isRelease] at this
    | released x => simp only [noMAtPresses]; exact ih _ (fun e he => h e (by simp [he]))

theorem noMAtPresses_congr (M : Key) {V W : List Key} (h : ∀ k, k ∈ V ↔ k ∈ W) (outM : Bool) (evs : List Event) :
    noMAtPresses M V outM evs = noMAtPresses M W outM evs := by
  induction evs generalizing V W with
  | nil => rfl
  | cons e es ih =>
    cases e with
    | pressed x =>
      simp only [noMAtPresses, contains_congr h M]
      congr 1
      exact ih (fun k => mem_applyEv_congr h _ k)
    | released x =>
      simp only [noMAtPresses]
      exact ih (fun k => mem_applyEv_congr h _ k)

/-- only modifiers are pressed: clause (ii) is vacuous -/
theorem noMAtPresses_modifiers (M : Key) (V : List Key) (outM : Bool) (evs : List Event)
    (h : ∀ x, Event.pressed x ∈ evs → isActionKey x = false) : noMAtPresses M V outM evs = true := by
  induction evs generalizing V with
  | nil => rfl
  | cons e es ih =>
    cases e with
    | pressed x =>
      simp only [noMAtPresses, h x (by simp), Bool.not_false, Bool.true_or, Bool.true_and]
      exact ih _ (fun y hy => h y (by simp [hy]))
    | released x => simp only [noMAtPresses]; exact ih _ (fun y hy => h y (by simp [hy]))

/-- the press loop: if M is down (before or by the loop) only when a mapping in effect outputs it,
clause (ii) holds at every press of the loop -/
theorem pressAll_noM {extra : List Key} (M : Key) (outM : Bool) (s : State) (ks : List Key) (V : List Key)
    (h : IInv extra s) (hk : ∀ k, k ∈ ks → k ∈ extra) (hV : ∀ y, y ∈ V ↔ y ∈ held s)
    (hM : M ∈ held s → outM = true) (hks : M ∈ ks → outM = true) :
    noMAtPresses M V outM (pressAll s ks).2 = true := by
  induction ks generalizing s V with
  | nil => rfl
  | cons k ks ih =>
    rw [pressAll_cons, noMAtPresses_append]
    have p := pressOne_spec s k h (hk k (by simp))
    have p1 := p.1; have p2 := p.2.emits
    have p3 : ∀ x, x ∈ held (pressOne s k).1 ↔ x ∈ held s ∨ x = k := by simpa using p.2.heldIff
    have hMV : M ∈ V → outM = true := fun hm => hM ((hV M).mp hm)
    have h1 : noMAtPresses M V outM (pressOne s k).2 = true := by
      unfold pressOne
      split
      · split
        · simp only [noMAtPresses, Bool.and_true]
          by_cases hm : M ∈ V
          · simp [hMV hm]
          · simp [hm]
        · split
          · simp only [noMAtPresses, Bool.and_true]
            by_cases hm : M ∈ V
            · simp [hMV hm]
            · simp [hm]
          · simp only [noMAtPresses, Bool.and_true]
            by_cases hm : M ∈ V
            · simp [hMV hm]
            · simp [hm]
      · split
        · simp only [noMAtPresses, Bool.and_true]
          by_cases hm : M ∈ V
          · simp [hMV hm]
          · simp [hm]
        · rfl
    rw [h1, Bool.true_and]
    have hV1 : ∀ y, y ∈ foldEvs V (pressOne s k).2 ↔ y ∈ held (pressOne s k).1 :=
      (p2.congr_left (fun y => (hV y).symm)).2
    apply ih (pressOne s k).1 _ p1 (fun x hx => hk x (by simp [hx])) hV1
    · intro hm
      rcases (p3 M).mp hm with h2 | h2
      · exact hM h2
      · exact hks (by simp [h2])
    · intro hm; exact hks (by simp [hm])

/-- C08 clause (ii), for EVERY layout (since the fix of D6), every history, every pending obligation (M, t):
in a step about another key, whenever a non-modifier key is pressed on the virtual keyboard, M is not
down there — unless a mapping in effect after the step outputs M.
(Since the fix of D7 without H1: a fired mapping that outputs ANY non-modifier key runs the
"release action mappings / release absorbed keys" block, so an absorbed M has been released as input before
the press loop; a fired mapping that outputs modifiers only presses modifiers only.) -/
theorem C08_ii (L : Layout) (y : Sys8) (hy : Reachable8 L y) (ob : Obl) (hob : ob ∈ y.obls)
    (k : Key) (hk : k ∉ y.x.s.inp) (hkt : k ≠ ob.t) (hkM : k ≠ ob.M) :
    c08ii (y.x.obs L (Event.pressed k)) ob = true := by
  have hx := hy.reachableEv.reachable
  have hs := hx.sinv
  have hok := hy.oblInv' ob hob
  have h0 := pressPrep_iinv k hs.inv.i
  have hV0 : ∀ z, z ∈ y.x.V ↔ z ∈ held (pressPrep y.x.s k) := fun z => hs.vheld z
  unfold c08ii
  simp only [Sys.obs, step_pressed_accepted L y.x.s k hk]
  -- the obligation at the prepared state
  have hok0 : (ob.M ∈ (pressPrep y.x.s k).absorbed ∧ shouldAbsorb (pressPrep y.x.s k) k = true) ∨
      ob.M ∉ (pressPrep y.x.s k).inp := by
    rcases hok with ⟨ha, ht⟩ | hn
    · left
      refine ⟨by simp [pressPrep, ha, Ne.symm hkM], ?_⟩
      simp only [shouldAbsorb, pressPrep, ht, bne_iff_ne, ne_eq]
      exact fun e => hkt e.symm
    · exact Or.inr hn
  cases hf : findMapping L y.x.s k with
  | some fm =>
    have fin := newlyPress_fire_finish hf
    rw [fin.2.1]
    have hfmL := (findMapping_some hf).1
    have c := consume_spec (pressPrep y.x.s k) fm h0
    simp only [List.nil_append] at c
    obtain ⟨c1, cR⟩ := c
    have c2 := cR.emits; have c3 := cR.allRel
    have d := addPhase2_spec (afterConsume (pressPrep y.x.s k) fm) k fm c1
    obtain ⟨d1, d2⟩ := d
    have hact' : (newlyPress L y.x.s k).1.active = (addPhase2 (afterConsume (pressPrep y.x.s k) fm) k fm).1.active ++ [fm] := by
      rw [fin.1]; exact (finishFire_ctl _ k fm).2.1
    rw [hact']
    generalize houtM : ((addPhase2 (afterConsume (pressPrep y.x.s k) fm) k fm).1.active ++ [fm]).any
      (fun m => m.to.contains ob.M) = outM
    have hout_fm : ob.M ∈ fm.to → outM = true := by
      intro h; rw [← houtM]; simp only [List.any_eq_true]; exact ⟨fm, by simp, by simpa using h⟩
    have hout_act : ∀ m', m' ∈ (addPhase2 (afterConsume (pressPrep y.x.s k) fm) k fm).1.active → ob.M ∈ m'.to → outM = true := by
      intro m' hm' h; rw [← houtM]; simp only [List.any_eq_true]; exact ⟨m', List.mem_append_left _ hm', by simpa using h⟩
    -- release-only prefix and suffix
    have e4 : ∀ e, e ∈ (addPhase4 (addPhase3 (addPhase2 (afterConsume (pressPrep y.x.s k) fm) k fm).1 k fm).1 k fm).2.1 →
        e.isRelease = true := by
      intro e he
      unfold addPhase4 at he
      cases hr : fm.rep <;> simp [hr, releaseAllActionKeys] at he
      all_goals (rcases he with ⟨a, _, rfl⟩ | ⟨a, _, rfl⟩ <;> rfl)
    rw [noMAtPresses_append, noMAtPresses_append, noMAtPresses_append,
      noMAtPresses_releases _ _ _ _ c3, noMAtPresses_releases _ _ _ _ d2.allRel, noMAtPresses_releases _ _ _ _ e4]
    simp only [Bool.true_and, Bool.and_true]
    have hev3 : (addPhase3 (addPhase2 (afterConsume (pressPrep y.x.s k) fm) k fm).1 k fm).2 =
        (pressAll (addPhase2 (afterConsume (pressPrep y.x.s k) fm) k fm).1 fm.to).2 := rfl
    rw [hev3]
    have em2 := (c2.trans d2.emits).congr_left (fun z => (hV0 z).symm)
    have hV2 : ∀ z, z ∈ foldEvs y.x.V ((consume fm (pressPrep y.x.s k).pass).2.2 ++
        (addPhase2 (afterConsume (pressPrep y.x.s k) fm) k fm).2) ↔
        z ∈ held (addPhase2 (afterConsume (pressPrep y.x.s k) fm) k fm).1 := em2.2
    cases hact : producesActionKey fm with
    | false =>
      -- the fired mapping outputs modifiers only: only modifiers are pressed
      apply noMAtPresses_modifiers
      intro x hx
      have hxto : x ∈ fm.to := (pressAll_spec _ fm.to d1 (fun _ h => h)).2.only x hx
      exact (producesActionKey_false_iff fm).mp hact x hxto
    | true =>
      -- it outputs a non-modifier key (fix of D7: wherever that key stands in the output), so the block of
      -- phase 2 ran: if M was absorbed, release_absorbed_keys has removed it as input
      have hMinp : ob.M ∉ (addPhase2 (afterConsume (pressPrep y.x.s k) fm) k fm).1.inp := by
        rcases hok0 with ⟨ha, hsa⟩ | hn
        · rcases addPhase2_aux_fields (afterConsume (pressPrep y.x.s k) fm) k fm with ⟨_, _, _, _, hinp⟩ | ⟨hnot, _⟩
          · intro hx; exact ((hinp ob.M).mp hx).2 ha
          · have hrun : absorbsNow (afterConsume (pressPrep y.x.s k) fm) k fm = true :=
              (absorbsNow_true_iff _ _ _).mpr ⟨hsa, Or.inl hact⟩
            rw [hrun] at hnot; cases hnot
        · exact fun hx => hn (d2.inpSub ob.M hx)
      apply pressAll_noM ob.M outM _ fm.to _ d1 (fun _ h => h) hV2
      · intro hm
        rcases (mem_held _ ob.M).mp hm with hp | hmp
        · exact absurd (d1.passInp ob.M hp) hMinp
        · rcases d1.mappedAct ob.M hmp with h3 | ⟨m', hm', h3⟩
          · exact hout_fm h3
          · exact hout_act m' hm' h3
      · exact hout_fm
  | none =>
    cases hcn : noHit y.x.s k with
    | false => rw [newlyPress_skip hf hcn]; rfl
    | true =>
      rw [newlyPress_pass hf hcn]
      cases hak : isActionKey k with
      | false =>
        rw [passThrough_nonaction _ k hak]
        simp [noMAtPresses, hak]
      | true =>
        rw [passThrough_action _ k hak]
        have r1 := releaseActionMappings_spec h0
        have q := releaseAbsorbedKeys_spec _ r1.1
        simp only
        rw [noMAtPresses_append, noMAtPresses_append, noMAtPresses_releases _ _ _ _ r1.2.allRel,
          noMAtPresses_releases _ _ _ _ q.2.allRel]
        simp only [Bool.true_and, noMAtPresses, Bool.and_true, hak, Bool.not_true, Bool.false_or,
          Bool.or_eq_true, Bool.not_eq_eq_eq_not, Bool.not_true]
        have em := (r1.2.emits.trans q.2.emits).congr_left (fun z => (hV0 z).symm)
        by_cases hm : ob.M ∈ foldEvs y.x.V ((releaseActionMappings (pressPrep y.x.s k)).2 ++
            (releaseAbsorbedKeys (releaseActionMappings (pressPrep y.x.s k)).1).2)
        · right
          have hmh := (em.2 ob.M).mp hm
          have hMinp : ob.M ∉ (releaseAbsorbedKeys (releaseActionMappings (pressPrep y.x.s k)).1).1.inp := by
            intro hx
            have : ob.M ∈ (pressPrep y.x.s k).inp ∧ ob.M ∉ (pressPrep y.x.s k).absorbed := by
              simpa only [releaseAbsorbedKeys_ctl, releaseActionMappings_ctl, List.mem_filter, List.contains_eq_mem,
                Bool.not_eq_eq_eq_not, Bool.not_true, decide_eq_false_iff_not] using hx
            rcases hok0 with ⟨ha, _⟩ | hn
            · exact this.2 ha
            · exact hn this.1
          rcases (mem_held _ ob.M).mp hmh with hp | hmp
          · exact absurd (q.1.passInp ob.M hp) hMinp
          · rcases q.1.mappedAct ob.M hmp with h3 | ⟨m', hm', h3⟩
            · simp at h3
            · simp only [List.any_eq_true]; exact ⟨m', hm', by simpa using h3⟩
        · left; simpa using hm

/-- `C08_ii` with the former name and signature: the hypothesis H2 is no longer used (fix of D6) -/
theorem C08_partial_ii' (L : Layout) (h2 : H2 L) (y : Sys8) (hy : Reachable8 L y) (ob : Obl) (hob : ob ∈ y.obls)
    (k : Key) (hk : k ∉ y.x.s.inp) (hkt : k ≠ ob.t) (hkM : k ≠ ob.M) :
    c08ii (y.x.obs L (Event.pressed k)) ob = true :=
  have _ := h2
  C08_ii L y hy ob hob k hk hkt hkM

/-- `C08_partial_ii'` with its former signature: the hypothesis H1 is no longer used (fix of D7) -/
theorem C08_partial_ii (L : Layout) (h1 : H1 L) (h2 : H2 L) (y : Sys8) (hy : Reachable8 L y) (ob : Obl) (hob : ob ∈ y.obls)
    (k : Key) (hk : k ∉ y.x.s.inp) (hkt : k ≠ ob.t) (hkM : k ≠ ob.M) :
    c08ii (y.x.obs L (Event.pressed k)) ob = true :=
  have _ := h1
  C08_partial_ii' L h2 y hy ob hob k hk hkt hkM

/-! ### clause (iii) (the variants with an `H2` argument no longer use it) -/

/-- the mapping a press of `t` fires when nothing is treated as absorbed (the case of a re-press of the
absorbing trigger) -/
def suppNow (L : Layout) (s : State) (t : Key) : Option Mapping :=
  (group L t).reverse.find? (fun m' => isSupported m'.frm s.inp [] t)

theorem isSupported_congr (frm : List Key) (i i' a a' : List Key) (t : Key)
    (h : ∀ x, ((x ∈ i ∧ x ∉ a) ∨ x = t) ↔ ((x ∈ i' ∧ x ∉ a') ∨ x = t)) :
    isSupported frm i a t = isSupported frm i' a' t := by
  unfold isSupported
  apply List.all_congr rfl
  intro x
  have := h x
  rw [Bool.eq_iff_iff]
  simpa using this

theorem suppNow_congr (L : Layout) (s s' : State) (t : Key)
    (h : ∀ x, (x ∈ s.inp ∨ x = t) ↔ (x ∈ s'.inp ∨ x = t)) : suppNow L s t = suppNow L s' t := by
  unfold suppNow
  congr 1
  funext m'
  exact isSupported_congr _ _ _ _ _ _ (by intro x; simpa using h x)

theorem findMapping_of_absTrig (L : Layout) (s : State) (t : Key) (h : s.absTrig = some t) :
    findMapping L s t = suppNow L s t := by
  unfold findMapping suppNow
  have : shouldAbsorb (pressPrep s t) t = false := by simp [shouldAbsorb, pressPrep, h]
  simp only [this, Bool.false_eq_true, if_false]
  rfl

/-- the invariant of a fresh obligation: nothing but (possibly) the trigger has been released since the
mapping fired and no other key has been pressed; while the held set is still the one of the firing,
`absorbing_trigger` is still `t` and the re-press would select the same mapping -/
def FreshOk (L : Layout) (P : List Key) (s : State) (ob : Obl) : Prop :=
  ob.fresh = true →
    (∀ x, x ∈ P → x ∈ ob.held) ∧ ob.t ∈ ob.held ∧ ob.M ∈ ob.m.absorbing ∧
    ((∀ x, x ∈ ob.held → x ∈ P ∨ x = ob.t) → s.absTrig = some ob.t ∧ suppNow L s ob.t = some ob.m)

def FreshInv (L : Layout) (y : Sys8) : Prop := ∀ ob, ob ∈ y.obls → FreshOk L y.x.P y.x.s ob

theorem mem_nextObls_fresh {o : Obs} {obls : List Obl} {ob : Obl} (h : ob ∈ nextObls o obls) (hfr : ob.fresh = true) :
    (ob ∈ obls ∧ ob.M ≠ o.e.key ∧
      (∀ k, o.e = Event.pressed k → o.accepted = true →
        ob.t = k ∧ ∀ fm, o.fired = some fm → ob.M ∉ fm.absorbing)) ∨
    (∃ k fm, o.e = Event.pressed k ∧ o.accepted = true ∧ o.fired = some fm ∧ ob.M ∈ fm.absorbing ∧
      ob.t = k ∧ ob.m = fm ∧ ob.held = o.P') := by
  unfold nextObls at h
  cases he : o.e with
  | released k =>
    simp only [he] at h
    simp only [List.mem_filter, bne_iff_ne, ne_eq] at h
    exact Or.inl ⟨h.1, by simpa [he, Event.key] using h.2, by intro k' hk'; simp at hk'⟩
  | pressed k =>
    simp only [he] at h
    cases hacc : o.accepted with
    | false =>
      simp only [hacc, Bool.not_false, if_true, List.mem_filter, bne_iff_ne, ne_eq] at h
      exact Or.inl ⟨h.1, by simpa [he, Event.key] using h.2, by intro k' _ hc; simp at hc⟩
    | true =>
      simp only [hacc, Bool.not_true, Bool.false_eq_true, if_false] at h
      cases hf : o.fired with
      | none =>
        simp only [hf, List.mem_map, List.mem_filter, bne_iff_ne, ne_eq] at h
        obtain ⟨ob0, ⟨hm, hne⟩, heq⟩ := h
        left
        by_cases hc : (ob0.t == (Event.pressed k).key) = true
        · rw [if_pos hc] at heq
          subst heq
          have ht : ob0.t = k := by simpa [Event.key] using hc
          exact ⟨hm, by simpa [he, Event.key] using hne,
            by intro k' hk' _; simp only [Event.pressed.injEq] at hk'; subst hk'; exact ⟨ht, by intro fm hfm; simp at hfm⟩⟩
        · rw [if_neg hc] at heq
          subst heq; simp at hfr
      | some fm =>
        simp only [hf, List.mem_append, List.mem_filter, List.mem_map, bne_iff_ne, ne_eq] at h
        rcases h with ⟨⟨ob0, ⟨hm, hne⟩, heq⟩, hnab⟩ | ⟨M, hM, heq⟩
        · left
          by_cases hc : (ob0.t == (Event.pressed k).key) = true
          · rw [if_pos hc] at heq
            subst heq
            have ht : ob0.t = k := by simpa [Event.key] using hc
            refine ⟨hm, by simpa [he, Event.key] using hne, ?_⟩
            intro k' hk' _
            simp only [Event.pressed.injEq] at hk'; subst hk'
            refine ⟨ht, ?_⟩
            intro fm' hfm'
            simp only [Option.some.injEq] at hfm'; subst hfm'
            simpa using hnab
          · rw [if_neg hc] at heq
            subst heq; simp at hfr
        · right
          subst heq
          exact ⟨k, fm, rfl, rfl, rfl, hM, rfl, rfl, rfl⟩

/-- what a firing of an absorbing mapping leaves behind, in EVERY layout (since the fix of D6; it needed H2
before): `absorbing_trigger` is the pressed key and a re-press would select the same mapping -/
theorem fire_suppNow' {L : Layout} {P : List Key} {s : State} (hinv : Inv L P s) {k : Key} {fm : Mapping}
    (hf : findMapping L s k = some fm) (hab : fm.absorbing ≠ []) :
    (newlyPress L s k).1.absTrig = some k ∧ suppNow L (newlyPress L s k).1 k = some fm := by
  have h0 := pressPrep_iinv k hinv.i
  have fin := newlyPress_fire_finish hf
  rw [fin.1]
  have ff := finishFire_ctl (addPhase2 (afterConsume (pressPrep s k) fm) k fm).1 k fm
  have c1 := (consume_spec (pressPrep s k) fm h0).1
  have p2 := addPhase2_aux_fields (afterConsume (pressPrep s k) fm) k fm
  have hlen : fm.absorbing.length > 0 := by
    cases hh : fm.absorbing with
    | nil => exact absurd hh hab
    | cons a l => simp
  refine ⟨by rw [ff.2.2.2]; simp [hlen], ?_⟩
  rw [← hf]
  unfold suppNow findMapping
  congr 1
  funext m'
  apply isSupported_congr
  intro x
  rw [ff.1]
  have hsa : shouldAbsorb (afterConsume (pressPrep s k) fm) k = shouldAbsorb (pressPrep s k) k := rfl
  rcases p2 with ⟨_, hsh, _, _, hinp2⟩ | ⟨hnot, _, _, hinp2⟩
  · rw [hsa] at hsh
    simp only [hsh, if_true, List.mem_append, List.mem_singleton, hinp2 x]
    have e1 : (afterConsume (pressPrep s k) fm).inp = (pressPrep s k).inp := rfl
    have e2 : (afterConsume (pressPrep s k) fm).absorbed = (pressPrep s k).absorbed := rfl
    rw [e1, e2]
    simp
  · have hsh : shouldAbsorb (pressPrep s k) k = false := by
      cases hh : shouldAbsorb (pressPrep s k) k with
      | false => rfl
      | true =>
        rw [← hsa] at hh
        have hrun : absorbsNow (afterConsume (pressPrep s k) fm) k fm = true :=
          (absorbsNow_true_iff _ _ _).mpr ⟨hh, Or.inr hab⟩
        rw [hrun] at hnot; cases hnot
    simp only [hsh, Bool.false_eq_true, if_false, List.mem_append, List.mem_singleton, hinp2]
    have e1 : (afterConsume (pressPrep s k) fm).inp = (pressPrep s k).inp := rfl
    rw [e1]
    simp

/-- `fire_suppNow'` with its former signature (H2 no longer used) -/
theorem fire_suppNow {L : Layout} (h2 : H2 L) {P : List Key} {s : State} (hinv : Inv L P s) {k : Key} {fm : Mapping}
    (hf : findMapping L s k = some fm) (hab : fm.absorbing ≠ []) :
    (newlyPress L s k).1.absTrig = some k ∧ suppNow L (newlyPress L s k).1 k = some fm :=
  have _ := h2
  fire_suppNow' hinv hf hab

theorem FreshInv.next' {L : Layout} {y : Sys8} (hy : Reachable8 L y) (hi : FreshInv L y) (e : Event) :
    FreshInv L (y.next L e) := by
  intro ob hob hfr
  have hx := hy.reachableEv.reachable
  have hs := hx.sinv
  simp only [Sys8.next] at hob ⊢
  rcases mem_nextObls_fresh hob hfr with ⟨hm0, hne, hpr⟩ | ⟨k, fm, he, hacc, hfired, hab, htk, hmfm, hheld⟩
  · -- an old fresh obligation that survives unchanged
    obtain ⟨hP, htH, hMab, hg⟩ := hi ob hm0 hfr
    cases e with
    | released r =>
      have hP' : ∀ x, x ∈ applyEv y.x.P (Event.released r) → x ∈ y.x.P := by
        intro x hx'; simp only [applyEv, List.mem_filter] at hx'; exact hx'.1
      refine ⟨fun x hx' => hP x (hP' x hx'), htH, hMab, ?_⟩
      intro hg'
      simp only [Sys.next] at hg' ⊢
      by_cases hrt : r = ob.t
      · subst hrt
        have hgd : ∀ x, x ∈ ob.held → x ∈ y.x.P ∨ x = ob.t := by
          intro x hx'; rcases hg' x hx' with h | h
          · exact Or.inl (hP' x h)
          · exact Or.inr h
        obtain ⟨hat, hsn⟩ := hg hgd
        by_cases hin : ob.t ∈ y.x.s.inp
        · rw [step_released_accepted L y.x.s ob.t hin]
          have hst : (newlyRelease y.x.s ob.t).1 = (releaseKey y.x.s ob.t).1 := rfl
          rw [hst]
          refine ⟨by simpa using hat, ?_⟩
          rw [← hsn]
          apply suppNow_congr
          intro x; simp only [releaseKey_ctl, List.mem_filter]
          by_cases hxt : x = ob.t <;> simp [hxt]
        · rw [step_released_ignored L y.x.s ob.t hin]; exact ⟨hat, hsn⟩
      · -- another key is released: if it was held the held set has shrunk for good
        by_cases hrP : r ∈ y.x.P
        · exfalso
          rcases hg' r (hP r hrP) with h | h
          · simp [applyEv] at h
          · exact hrt h
        · have hin : r ∉ y.x.s.inp := fun h => hrP (hs.inv.inpP r h)
          rw [step_released_ignored L y.x.s r hin]
          apply hg
          intro x hx'; rcases hg' x hx' with h | h
          · exact Or.inl (hP' x h)
          · exact Or.inr h
    | pressed k =>
      by_cases hk : k ∈ y.x.s.inp
      · -- ignored press
        have hkP : k ∈ y.x.P := hs.inv.inpP k hk
        have hPe : applyEv y.x.P (Event.pressed k) = y.x.P := by simp [applyEv, hkP]
        simp only [Sys.next, hPe, step_pressed_ignored L y.x.s k hk]
        exact ⟨hP, htH, hMab, hg⟩
      · have hacc : (y.x.obs L (Event.pressed k)).accepted = true := by simp [Obs.accepted, Sys.obs, hk]
        obtain ⟨htk, hnab⟩ := hpr k rfl hacc
        have hP' : ∀ x, x ∈ applyEv y.x.P (Event.pressed k) → x ∈ y.x.P ∨ x = ob.t := by
          intro x hx'; simp only [applyEv] at hx'
          split at hx'
          · exact Or.inl hx'
          · simp only [List.mem_append, List.mem_singleton] at hx'
            rcases hx' with h | h
            · exact Or.inl h
            · exact Or.inr (by rw [h, htk])
        refine ⟨?_, htH, hMab, ?_⟩
        · intro x hx'; rcases hP' x hx' with h | h
          · exact hP x h
          · rw [h]; exact htH
        · intro hg'
          exfalso
          have hgd : ∀ x, x ∈ ob.held → x ∈ y.x.P ∨ x = ob.t := by
            intro x hx'; rcases hg' x hx' with h | h
            · exact hP' x h
            · exact Or.inr h
          obtain ⟨hat, hsn⟩ := hg hgd
          have hf : findMapping L y.x.s k = some ob.m := by
            rw [← htk, findMapping_of_absTrig L y.x.s ob.t hat]; exact hsn
          have hfired : (y.x.obs L (Event.pressed k)).fired = some ob.m := by rw [fired_eq hs k hk]; exact hf
          exact hnab ob.m hfired hMab
  · -- a new obligation
    have he' : e = Event.pressed k := by simpa [Sys.obs] using he
    subst he'
    have hk : k ∉ y.x.s.inp := by simpa [Obs.accepted, Sys.obs] using hacc
    have hf : findMapping L y.x.s k = some fm := by rw [← fired_eq hs k hk]; exact hfired
    have hne : fm.absorbing ≠ [] := by intro e; rw [e] at hab; simp at hab
    have fs := fire_suppNow' hs.inv hf hne
    have hP'eq : (y.x.obs L (Event.pressed k)).P' = applyEv y.x.P (Event.pressed k) := rfl
    simp only [Sys.next, step_pressed_accepted L y.x.s k hk]
    refine ⟨?_, ?_, by rw [hmfm]; exact hab, ?_⟩
    · intro x hx'; rw [hheld, hP'eq]; exact hx'
    · rw [hheld, hP'eq, htk]; simp only [applyEv]; split
      · rename_i hc; simpa using hc
      · simp
    · intro _; rw [htk, hmfm]; exact fs

/-- `FreshInv.next'` with its former signature (H2 no longer used) -/
theorem FreshInv.next {L : Layout} (h2 : H2 L) {y : Sys8} (hy : Reachable8 L y) (hi : FreshInv L y) (e : Event) :
    FreshInv L (y.next L e) :=
  have _ := h2
  FreshInv.next' hy hi e

/-- the invariant of the fresh obligations holds in every reachable state of EVERY layout (fix of D6) -/
theorem Reachable8.freshInv' {L : Layout} {y : Sys8} (hy : Reachable8 L y) : FreshInv L y := by
  obtain ⟨evs, rfl⟩ := hy
  suffices ∀ (z : Sys8), Reachable8 L z → FreshInv L z → FreshInv L (Sys8.run L z evs) from
    this Sys8.init ⟨[], rfl⟩ (by intro ob hob; simp [Sys8.init] at hob)
  induction evs with
  | nil => exact fun z _ h => h
  | cons e es ih =>
    intro z hz hi
    simp only [Sys8.run, List.foldl_cons]
    have hz' : Reachable8 L (z.next L e) := by
      obtain ⟨evs0, rfl⟩ := hz
      exact ⟨evs0 ++ [e], by simp [Sys8.run, List.foldl_append]⟩
    exact ih _ hz' (FreshInv.next' hz hi e)

/-- `Reachable8.freshInv'` with its former signature (H2 no longer used) -/
theorem Reachable8.freshInv {L : Layout} (h2 : H2 L) {y : Sys8} (hy : Reachable8 L y) : FreshInv L y :=
  have _ := h2
  hy.freshInv'

/-- C08 clause (iii), for EVERY layout (since the fix of D6), every history, every pending obligation
(M, t, m, held) that is still fresh (no other key pressed since m fired): an accepted re-press of t with
the same keys held fires the same mapping m again -/
theorem C08_iii (L : Layout) (y : Sys8) (hy : Reachable8 L y) (ob : Obl) (hob : ob ∈ y.obls)
    (hfr : ob.fresh = true) (hk : ob.t ∉ y.x.s.inp)
    (hsame : sameSet (y.x.obs L (Event.pressed ob.t)).P' ob.held = true) :
    c08iii (y.x.obs L (Event.pressed ob.t)) ob = true := by
  have hs := hy.reachableEv.reachable.sinv
  obtain ⟨_, _, _, hg⟩ := hy.freshInv' ob hob hfr
  have hgd : ∀ x, x ∈ ob.held → x ∈ y.x.P ∨ x = ob.t := by
    intro x hx
    simp only [sameSet, Bool.and_eq_true, List.all_eq_true, List.contains_eq_mem, decide_eq_true_eq] at hsame
    have := hsame.2 x hx
    have hP'eq : (y.x.obs L (Event.pressed ob.t)).P' = applyEv y.x.P (Event.pressed ob.t) := rfl
    rw [hP'eq] at this
    simp only [applyEv] at this
    split at this
    · exact Or.inl this
    · simp only [List.mem_append, List.mem_singleton] at this; exact this
  obtain ⟨hat, hsn⟩ := hg hgd
  unfold c08iii
  rw [fired_eq hs ob.t hk, findMapping_of_absTrig L y.x.s ob.t hat, hsn]
  simp

/-- `C08_iii` with the former name and signature (H2 no longer used) -/
theorem C08_partial_iii (L : Layout) (h2 : H2 L) (y : Sys8) (hy : Reachable8 L y) (ob : Obl) (hob : ob ∈ y.obls)
    (hfr : ob.fresh = true) (hk : ob.t ∉ y.x.s.inp)
    (hsame : sameSet (y.x.obs L (Event.pressed ob.t)).P' ob.held = true) :
    c08iii (y.x.obs L (Event.pressed ob.t)) ob = true :=
  have _ := h2
  C08_iii L y hy ob hob hfr hk hsame

/-! ### the full statement: every layout -/

/-- C08 for EVERY layout: the trace monitor accepts every step of every history
(since the fix of D7 the hypothesis H1 is gone, since the fix of D6 the hypothesis H2 as well) -/
theorem C08_full : C08_statement := by
  intro L y hy e
  unfold monC08
  cases e with
  | released k => rfl
  | pressed k =>
    have he : (y.x.obs L (Event.pressed k)).e = Event.pressed k := rfl
    simp only [he]
    cases hacc : (y.x.obs L (Event.pressed k)).accepted with
    | false => rfl
    | true =>
      have hk : k ∉ y.x.s.inp := by simpa [Obs.accepted, Sys.obs] using hacc
      simp only [Bool.not_true, Bool.false_eq_true, if_false, List.flatMap_eq_nil_iff, List.mem_filter,
        bne_iff_ne, ne_eq]
      intro ob ⟨hob, hMk⟩
      have hkM : k ≠ ob.M := fun e => hMk e.symm
      by_cases hkt : ob.t = k
      · rw [if_neg (fun hn => hn hkt)]
        cases hc : (ob.fresh && sameSet (y.x.obs L (Event.pressed k)).P' ob.held) with
        | false => rfl
        | true =>
          simp only [if_true]
          simp only [Bool.and_eq_true] at hc
          subst hkt
          rw [C08_iii L y hy ob hob hc.1 hk hc.2]
          rfl
      · have hkt' : k ≠ ob.t := fun e => hkt e.symm
        rw [if_pos hkt]
        simp only [C08_i_monitor L y hy ob hob k hk hkt' hkM,
          C08_ii L y hy ob hob k hk hkt' hkM, if_true, List.append_nil]

/-- `C08_full` restricted to layouts satisfying H2 (former name and signature; H2 is no longer used) -/
theorem C08_partial' (L : Layout) (h2 : H2 L) (y : Sys8) (hy : Reachable8 L y) (e : Event) :
    monC08 (y.x.obs L e) y.obls = [] :=
  have _ := h2
  C08_full L y hy e

/-- `C08_partial'` with its former signature: the hypothesis H1 is no longer used (fix of D7) -/
theorem C08_partial (L : Layout) (h1 : H1 L) (h2 : H2 L) (y : Sys8) (hy : Reachable8 L y) (e : Event) :
    monC08 (y.x.obs L e) y.obls = [] :=
  have _ := h1
  C08_partial' L h2 y hy e

/-! ### "M counts again once it has been released and pressed again" (every layout, no hypothesis) -/

/-- a key becomes absorbed only by a step that fires a mapping listing it in its absorbing list, and an
accepted press of a key un-absorbs that very key first -/
theorem C08_absorbed_only_by_firing {L : Layout} {P : List Key} {s : State} (h : Inv L P s) (e : Event) (x : Key)
    (hx : x ∈ (step L s e).1.absorbed) :
    (x ∈ s.absorbed ∧ ¬(e = Event.pressed x ∧ x ∉ s.inp)) ∨
    ∃ k fm, e = Event.pressed k ∧ k ∉ s.inp ∧ findMapping L s k = some fm ∧ x ∈ fm.absorbing := by
  cases e with
  | released k =>
    left
    by_cases hk : k ∈ s.inp
    · rw [step_released_accepted L s k hk] at hx
      have : (newlyRelease s k).1.absorbed = s.absorbed := (releaseKey_ctl s k).2.2.1
      rw [this] at hx; exact ⟨hx, by simp⟩
    · rw [step_released_ignored L s k hk] at hx; exact ⟨hx, by simp⟩
  | pressed k =>
    by_cases hk : k ∈ s.inp
    · left; rw [step_pressed_ignored L s k hk] at hx; exact ⟨hx, by intro hc; exact hc.2 (by rw [← (Event.pressed.inj hc.1)]; exact hk)⟩
    · rw [step_pressed_accepted L s k hk] at hx
      have h0 := pressPrep_iinv k h.i
      have hp : ∀ y, y ∈ (pressPrep s k).absorbed → y ∈ s.absorbed ∧ y ≠ k := by
        intro y hy; simpa [pressPrep] using hy
      have hleft : x ∈ (pressPrep s k).absorbed → (x ∈ s.absorbed ∧ ¬(Event.pressed k = Event.pressed x ∧ x ∉ s.inp)) := by
        intro hy
        refine ⟨(hp x hy).1, ?_⟩
        intro hc
        exact (hp x hy).2 (Event.pressed.inj hc.1).symm
      cases hf : findMapping L s k with
      | some m =>
        rw [newlyPress_fire hf] at hx
        rcases addNewMapping_absorbed_sub _ k m x hx with h1 | h1
        · exact Or.inl (hleft h1)
        · exact Or.inr ⟨k, m, rfl, hk, hf, h1⟩
      | none =>
        cases hc : noHit s k with
        | true =>
          rw [newlyPress_pass hf hc] at hx
          exact Or.inl (hleft (passThrough_absorbed_sub _ k x hx))
        | false =>
          rw [newlyPress_skip hf hc] at hx
          exact Or.inl (hleft hx)

/-- C08, last sentence, first half: once M has been released (so that its next press is accepted) and is
pressed again, it is an input key again and it is NOT absorbed any more — unless this very press fires a
mapping that lists M in its own absorbing list.  Every layout, every state satisfying the invariant. -/
theorem C08_pressed_again {L : Layout} {P : List Key} {s : State} (h : Inv L P s) (M : Key) (hM : M ∉ s.inp) :
    M ∈ (step L s (Event.pressed M)).1.inp ∧
    (M ∈ (step L s (Event.pressed M)).1.absorbed → ∃ fm, findMapping L s M = some fm ∧ M ∈ fm.absorbing) := by
  constructor
  · have := (step_inv L P s (Event.pressed M) h).1
    rw [step_pressed_accepted L s M hM]
    cases hf : findMapping L s M with
    | some m => rw [newlyPress_fire hf]; simp
    | none =>
      cases hc : noHit s M with
      | true => rw [newlyPress_pass hf hc]; simp
      | false => rw [newlyPress_skip hf hc]; simp
  · intro hx
    rcases C08_absorbed_only_by_firing h (Event.pressed M) M hx with ⟨_, hno⟩ | ⟨k, fm, he, _, hf, hab⟩
    · exact absurd ⟨rfl, hM⟩ hno
    · have : M = k := Event.pressed.inj he
      subst this; exact ⟨fm, hf, hab⟩

/-- C08, last sentence, second half: a held key that is not absorbed COUNTS — for a press of any other key k
it passes the per-key test of `is_supported` (held and not treated as absorbed), so a mapping requiring M is
selected exactly as if M had never been absorbed (`findMapping` is the last-listed mapping all of whose trigger
keys pass that test).  It stays so until a mapping absorbing M fires (`C08_absorbed_only_by_firing`). -/
theorem C08_counts (s : State) (k M : Key) (hMi : M ∈ s.inp) (hMa : M ∉ s.absorbed) :
    ((pressPrep s k).inp.contains M &&
      !(if shouldAbsorb (pressPrep s k) k then (pressPrep s k).absorbed else []).contains M) = true := by
  have h1 : (pressPrep s k).inp = s.inp := rfl
  have h2 : M ∉ (pressPrep s k).absorbed := by simp [pressPrep, hMa]
  rw [h1]
  split <;> simp [hMi, hMa]

/-- … and so, with M counted, a mapping whose other trigger keys are all held and unabsorbed is supported -/
theorem C08_counts_supported (s : State) (k : Key) (m : Mapping)
    (hall : ∀ x, x ∈ m.frm → x = k ∨ (x ∈ s.inp ∧ x ∉ s.absorbed)) :
    isSupported m.frm (pressPrep s k).inp
      (if shouldAbsorb (pressPrep s k) k then (pressPrep s k).absorbed else []) k = true := by
  unfold isSupported
  rw [List.all_eq_true]
  intro x hx
  rcases hall x hx with h | ⟨h1, h2⟩
  · simp [h]
  · rw [C08_counts s k x h1 h2]; simp

/-! Non-vacuity of the last sentence: after LEFTSHIFT↓ A↓ A↑ LEFTSHIFT↑ LEFTSHIFT↓ no obligation is pending,
LEFTSHIFT is an input key and not absorbed, and a press of B fires the LEFTSHIFT+B chord (whereas without the
release and re-press it does not: see the example at the end of this file). -/
example :
    let L : Layout := [⟨[42, 30], [42, 30], Repeat.normal, [42]⟩, ⟨[42, 48], [42, 48], Repeat.normal, [42]⟩]
    let y := Sys8.run L Sys8.init
      [Event.pressed 42, Event.pressed 30, Event.released 30, Event.released 42, Event.pressed 42]
    y.obls = [] ∧ 42 ∈ y.x.s.inp ∧ 42 ∉ y.x.s.absorbed ∧
    findMapping L y.x.s 48 = some ⟨[42, 48], [42, 48], Repeat.normal, [42]⟩ := by
  decide

/-! ### former findings D6 and D7 are fixed: regressions -/

def d6Layout : Layout :=
  [⟨[42, 29], [44, 45], Repeat.normal, []⟩, ⟨[42, 46], [29], Repeat.normal, [42]⟩, ⟨[30, 29], [], Repeat.normal, [30]⟩]

def d6History : List Event :=
  [Event.pressed 42, Event.pressed 30, Event.pressed 46, Event.released 46, Event.pressed 29, Event.released 29,
   Event.released 30]

/-- Regression for former finding D6 (FIXED in `add_new_mapping`: `release_absorbed_keys` runs
`if should_absorb && (produces_action_key(m) || m.absorbing.len() > 0)`).  The layout is outside H2
(`[A, LEFTCTRL] → []` absorbs A and is not key-producing).  Before the fix: LEFTSHIFT was absorbed by the `C` chord
(trigger C) and never released; the press of LEFTCTRL fired `[A, LEFTCTRL] → [] absorbing A`, which overwrote
`absorbing_trigger` with LEFTCTRL while LEFTSHIFT stayed in `mapped_absorbed_keys`; re-pressing LEFTCTRL — the press
below — then exempted LEFTSHIFT too and fired `[LEFTSHIFT, LEFTCTRL] → [Z, X]` (the monitor returned `["C08:D6"]`).
Now the firing of `[A, LEFTCTRL] → []` lets go of LEFTSHIFT first (it is no longer an input key, the only absorbed key
is A, absorbed under the current trigger LEFTCTRL): the same press fires nothing, LEFTCTRL is passed through, and the
monitor accepts. -/
theorem C08_d6_fixed :
    let y := Sys8.run d6Layout Sys8.init d6History
    layoutH2 d6Layout = false ∧
    (y.obls.map fun ob => (ob.M, ob.t)) = [(42, 46)] ∧
    monC08 (y.x.obs d6Layout (Event.pressed 29)) y.obls = [] ∧
    findMapping d6Layout y.x.s 29 = none ∧
    (step d6Layout y.x.s (Event.pressed 29)).2.events = [Event.pressed 29] ∧
    -- the state right after the first press of LEFTCTRL (which fires `[A, LEFTCTRL] → [] absorbing A`):
    (let z := Sys8.run d6Layout Sys8.init (d6History.take 5)
     z.x.s.absorbed = [30] ∧ z.x.s.absTrig = some 29 ∧ 42 ∉ z.x.s.inp) := by
  decide

/-! What the fix of D6 changes inside the firing step itself (only possible in layouts with an absorbing mapping
that is not key-producing): `[LEFTSHIFT, C] → [LEFTALT] absorbing LEFTSHIFT` is in effect (C still held) when
`[A, LEFTCTRL] → [] absorbing A` fires under the other trigger LEFTCTRL.  The absorbed LEFTSHIFT is let go now, which
ends the `C` chord that requires it: the step's events are `[A↑, LEFTALT↑]` (before the fix: `[A↑]`, LEFTALT stayed
down and LEFTSHIFT stayed in `mapped_absorbed_keys` under the overwritten trigger). -/
example :
    let L : Layout := [⟨[42, 46], [56], Repeat.normal, [42]⟩, ⟨[30, 29], [], Repeat.normal, [30]⟩]
    let r := run L State.init [Event.pressed 42, Event.pressed 30, Event.pressed 46, Event.pressed 29]
    r.2.map (·.events) =
      [[Event.pressed 42], [Event.pressed 30], [Event.released 42, Event.pressed 56],
       [Event.released 30, Event.released 56]] ∧
    r.1.absorbed = [30] ∧ r.1.absTrig = some 29 ∧ r.1.inp = [30, 46, 29] := by
  decide

def d7Layout : Layout :=
  [⟨[30, 46], [21, 30], Repeat.normal, [30]⟩, ⟨[42], [44, 29], Repeat.normal, []⟩]

def d7History : List Event := [Event.pressed 30, Event.pressed 46, Event.released 46]

/-- Regression for former finding D7 (FIXED in `add_new_mapping`: the block is entered on
`produces_action_key(m)`): `[LEFTSHIFT] → [Z, LEFTCTRL]` ends in a modifier (the layout is outside H1, inside
H2); before the fix it was treated as a modifier-remapping and skipped `release_absorbed_keys`, so Z went
down while the absorbed A was still down and the monitor returned `["C08:D7"]` on this very step.  Now the
monitor accepts the step, and the step's events release the absorbed A before Z goes down. -/
theorem C08_d7_fixed :
    let y := Sys8.run d7Layout Sys8.init d7History
    layoutH1 d7Layout = false ∧ layoutH2 d7Layout = true ∧
    (y.obls.map fun ob => (ob.M, ob.t)) = [(30, 46)] ∧
    y.x.V = [30] ∧
    monC08 (y.x.obs d7Layout (Event.pressed 42)) y.obls = [] ∧
    (step d7Layout y.x.s (Event.pressed 42)).2.events =
      [Event.released 30, Event.pressed 44, Event.pressed 29] := by
  decide

/-! Non-vacuity (written for the former partial theorem, equally an instance of `C08_full`): unit-test layout `absorbing_double_press_test_1`
(`[LEFTSHIFT,A]→[LEFTSHIFT,A]`, `[LEFTSHIFT,B]→[LEFTSHIFT,B]`, both absorbing LEFTSHIFT; H1 ∧ H2 hold):
after LEFTSHIFT↓ A↓ the obligation (LEFTSHIFT, A) is pending and pressing B does NOT fire the B chord:
B is passed through after LEFTSHIFT has been lifted. -/
example :
    let L : Layout := [⟨[42, 30], [42, 30], Repeat.normal, [42]⟩, ⟨[42, 48], [42, 48], Repeat.normal, [42]⟩]
    let y := Sys8.run L Sys8.init [Event.pressed 42, Event.pressed 30]
    (y.obls.map fun ob => (ob.M, ob.t)) = [(42, 30)] ∧
    findMapping L y.x.s 48 = none ∧
    (step L y.x.s (Event.pressed 48)).2.events = [Event.released 30, Event.released 42, Event.pressed 48] ∧
    monC08 (y.x.obs L (Event.pressed 48)) y.obls = [] := by
  decide

end TmVerif

namespace TmVerif

/-! Non-vacuity of `C08_partial` and its clauses (iii) and (ii), on the unit-test layout
`absorbing_double_press_test_1` extended by a plain mapping: the layout is inside H1 ∧ H2; after
LEFTSHIFT↓ A↓ A↑ a FRESH obligation (LEFTSHIFT, A) is pending, the re-press of A fires the same
mapping again (clause iii), and a press of C (no mapping) lifts LEFTSHIFT before C goes down
(clause ii). -/
example :
    let L : Layout := [⟨[42, 30], [42, 30], Repeat.normal, [42]⟩, ⟨[42, 48], [42, 48], Repeat.normal, [42]⟩, ⟨[46], [45], Repeat.normal, []⟩]
    let y := Sys8.run L Sys8.init [Event.pressed 42, Event.pressed 30, Event.released 30]
    layoutH1 L = true ∧ layoutH2 L = true ∧
    (y.obls.map fun ob => (ob.M, ob.t, ob.fresh)) = [(42, 30, true)] ∧
    findMapping L y.x.s 30 = some ⟨[42, 30], [42, 30], Repeat.normal, [42]⟩ ∧
    (step L y.x.s (Event.pressed 46)).2.events = [Event.released 42, Event.pressed 45] ∧
    monC08 (y.x.obs L (Event.pressed 30)) y.obls = [] ∧ monC08 (y.x.obs L (Event.pressed 46)) y.obls = [] := by
  decide

end TmVerif
