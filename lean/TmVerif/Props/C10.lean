/-
C10 — Event-loop output is independent of how input events are chunked.

"However the kernel batches a given sequence of keyboard events into readiness notifications and
reads (any grouping, with spurious time-outs or a signal interruption in between), the events
written to the virtual keyboard are exactly the mapper's outputs for that sequence, each non-empty
step written once and in order (timer chords, C11, and tablet mode, C12, aside).  The loop never
goes back to waiting while events it has been notified about are still unread, and it stops without
further writes when the device reports it is gone."

The loop model is OPEN: the script of answers is arbitrary, so every batching, every poll result
(time-outs, interruptions, any device list in any order), every arrival pattern is covered — the
schedule is just the script.
-/
import TmVerif.Proofs.LoopRun

namespace TmVerif

/-- C10 (output): for every well-formed layout and EVERY script of driver answers, as long as no
call has failed, the step / release-all sends completed so far, plus the one being sent, are exactly
the non-empty mapper outputs — one per operation, in order — for the operations the loop performed:
`Op.ev e` for each keyboard event read outside tablet mode, `Op.relAll` for each tablet event read.
Nothing here depends on how the events were grouped into wake-ups. -/
theorem C10_out (L : Layout) (x0 : Machine) (h0 : Machine.init L = some x0) (rs : List Resp)
    (hnb : (runG L x0 Ghost.init rs).1.c ≠ Ctl.bad)
    (hnf : ∀ msg, (runG L x0 Ghost.init rs).1.c ≠ Ctl.done (some msg)) :
    (runG L x0 Ghost.init rs).2.sent ++ (runG L x0 Ghost.init rs).1.c.pendingOut =
      nonEmptyOuts L Sys.init (runG L x0 Ghost.init rs).2.ops ∧
    (runG L x0 Ghost.init rs).1.v.m = (Sys.run L Sys.init (runG L x0 Ghost.init rs).2.ops).s := by
  rcases (LoopInv.init h0).run rs with h | h
  · exact absurd h hnb
  · refine ⟨?_, h.mapper⟩
    rcases h.sends with ⟨msg, hm⟩ | hs
    · exact absurd hm (hnf msg)
    · exact hs

/-- the same in terms of the visible calls, for scripts without failures -/
theorem C10_out_calls (L : Layout) (x0 : Machine) (h0 : Machine.init L = some x0) (rs : List Resp)
    (hne : noErr rs = true) (hnb : (runG L x0 Ghost.init rs).1.c ≠ Ctl.bad)
    (hnf : ∀ msg, (runG L x0 Ghost.init rs).1.c ≠ Ctl.done (some msg)) :
    callsSends (runScript L x0 rs).1 ++ (runScript L x0 rs).2.c.pendingOut =
      nonEmptyOuts L Sys.init (runG L x0 Ghost.init rs).2.ops := by
  have h := (C10_out L x0 h0 rs hnb hnf).1
  rw [sent_eq_callsSends L x0 Ghost.init rs hne hnb, runG_machine] at h
  simpa [Ghost.init] using h

/-- C10 (drain): the loop returns to the top of its loop (the clock read for the timeout, or `poll`
itself) from a device read only when that read answered `Busy` and no notified device remains; and
never from the middle of handling an event. -/
theorem C10_drain (L : Layout) (x : Machine) (r : Resp) (htop : (advance L x r).c.isPollTop = true) :
    match x.c with
    | Ctl.readKbd rest => r = Resp.kbd Next.busy ∧ rest = []
    | Ctl.readTab rest => r = Resp.tab Next.busy ∧ rest = []
    | Ctl.sendStep _ _ _ => False
    | Ctl.stepNow _ _ _ _ => False
    | Ctl.sendRel _ _ => False
    | _ => True := by
  have ha := Adv.of_ne_bad (L := L) (x := x) (r := r) (fun hb => by rw [hb] at htop; cases htop)
  generalize advance L x r = y at htop ha
  cases ha with
  | kbdBusy v rest | tabBusy v rest =>
    cases rest with
    | nil => exact ⟨rfl, rfl⟩
    | cons d rest => cases d <;> cases htop
  | sendStep v rest evs rr => cases rr <;> cases htop
  | kbdOneQuiet v rest ev hit hemp =>
    generalize (step L v.m ev).2.rep = rr at htop
    cases rr <;> cases htop
  | _ => simp_all [Ctl.isPollTop]

/-- C10 (drain, progress): while a notified device still has events, the loop keeps reading it: after
`One(ev)` (and the send / clock read it may cause) the next driver call is `next_keyboard` again;
after `Busy` it moves to the next notified device. -/
theorem C10_reads_on (L : Layout) (v : LoopVars) (rest : List Dev) (d : Dev) :
    advance L ⟨v, Ctl.readKbd (d :: rest)⟩ (Resp.kbd Next.busy) =
      ⟨v, match d with | Dev.keyboard => Ctl.readKbd rest | Dev.tablet => Ctl.readTab rest⟩ := by
  cases d <;> rfl

/-- C10 (end): when the device reports it is gone the loop returns `Ok(())`, and a returned loop
makes no call at all (in particular no write) -/
theorem C10_end (L : Layout) (v : LoopVars) (rest : List Dev) :
    advance L ⟨v, Ctl.readKbd rest⟩ (Resp.kbd Next.end_) = ⟨v, Ctl.done none⟩ ∧
    pending ⟨v, Ctl.done none⟩ = none := ⟨rfl, rfl⟩

/-! Non-vacuity: the same three events delivered as one batch and as three wake-ups with a spurious
time-out and an interruption in between give the same sends. -/
def c10Layout : Layout := [⟨[58], [], Repeat.normal, []⟩, ⟨[58, 36], [105], Repeat.normal, []⟩]

def c10OneBatch : List Resp :=
  [Resp.unit, Resp.poll (PollRes.deviceEvent [Dev.keyboard]),
   Resp.kbd (Next.one (Event.pressed 58)), Resp.kbd (Next.one (Event.pressed 36)), Resp.unit,
   Resp.kbd (Next.one (Event.released 36)), Resp.unit, Resp.kbd Next.busy]

def c10ThreeBatches : List Resp :=
  [Resp.unit, Resp.poll (PollRes.deviceEvent [Dev.keyboard]),
   Resp.kbd (Next.one (Event.pressed 58)), Resp.kbd Next.busy,
   Resp.poll PollRes.timedOut, Resp.poll (PollRes.deviceEvent [Dev.keyboard]),
   Resp.kbd (Next.one (Event.pressed 36)), Resp.unit, Resp.kbd Next.busy,
   Resp.poll PollRes.interrupted, Resp.poll (PollRes.deviceEvent [Dev.keyboard]),
   Resp.kbd (Next.one (Event.released 36)), Resp.unit, Resp.kbd Next.busy]

example :
    (Machine.init c10Layout).map (fun x0 => callsSends (runScript c10Layout x0 c10OneBatch).1) =
      some [[Event.pressed 105], [Event.released 105]] ∧
    (Machine.init c10Layout).map (fun x0 => callsSends (runScript c10Layout x0 c10ThreeBatches).1) =
      some [[Event.pressed 105], [Event.released 105]] := by
  decide

end TmVerif
