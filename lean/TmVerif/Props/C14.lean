/-
C14 — Any layout file is either rejected with a message or runs without crashing.

"For any input given as a layout file, loading returns either an error message or a layout; it never
panics.  Every layout that loading accepts can be installed in the mapper and driven with any
sequence of key events without panicking."

Model: `Model/Json.lean` (a `serde_json::Value`), `Model/Parse.lean` (`parse_layout_from_json`),
`Model/Convert.lean` (`fancy_layout_interpreting::convert`), `Model/Load.lean`
(`load = parse >>= convert`, i.e. `load_layout_from_file` after `serde_json::from_reader`).
In the model every place where the Rust code could panic if its guard were missing (`.unwrap()`,
`v[i]`, `v[a..b]`, `usize` subtraction, running out of fuel in the odometer) yields the explicit
outcome `Outcome.panic`; the theorems say that outcome is never produced.

What is NOT covered by these theorems and is covered by suite `load` instead:
* the text → `Value` stage (`serde_json::from_reader`): a raw byte stream through the real
  `load_layout_from_file` (truncations, invalid UTF-8, BOM, duplicate keys, huge numbers, 10 000 and
  1 000 000 levels of nesting in a child process) must return `Ok`/`Err`;
* that the model is the code: differential testing of model vs implementation under `catch_unwind`;
Index-safety of the index loops of `src/key_transforms.rs` when the mapper is driven is NOT in this file
(the structural mapper model's `step` is a total function, so here "driven … without panicking" holds
by construction): it is `Props/C14Idx.lean` — `C14_steps`, `C14_install`, `C14_idx` about the
index-faithful twin `Model/MapperIdx.lean`.
-/
import TmVerif.Proofs.Load

namespace TmVerif
open Outcome

/-- `parse_layout_from_json` returns `Ok` or `Err` for every JSON value (no hypothesis; not even
that object keys are sorted or distinct). -/
theorem C14_parse (j : Json) : parseLayoutFromJson j ≠ Outcome.panic := (parseLayoutFromJson_sat j).1

/-- `convert` returns `Ok` or `Err` for every fancy layout — parse-produced or not. -/
theorem C14_convert (F : Fancy.Layout) : convert F ≠ Outcome.panic := (convert_sat F).1

/-- loading returns an error or a layout; it never panics -/
theorem C14_load (j : Json) : load j ≠ Outcome.panic := (load_sat j).1

/-- the same as a disjunction -/
theorem C14_load' (j : Json) : load j = Outcome.error ∨ ∃ L, load j = Outcome.ok L := by
  cases h : load j with
  | ok L => exact Or.inr ⟨L, rfl⟩
  | error => exact Or.inl rfl
  | panic => exact absurd h (C14_load j)

/-- Every layout `convert` accepts is well-formed in the sense `Mapper::for_layout` insists on
(non-empty duplicate-free triggers, duplicate-free outputs).  Hypothesis `aliasFromNonempty`: alias
definitions have at least one trigger key — needed because `convert_alias` copies the alias's keys
into a trigger; the parser guarantees it (`parseLayoutFromJson_sat`, `Fancy.aliasFromNonempty_of_layoutOK`).
The duplicate-freedom is exactly the check at the end of `convert`. -/
theorem convert_wf {F : Fancy.Layout} (hF : Fancy.aliasFromNonempty F = true) {L : Layout}
    (h : convert F = Outcome.ok L) : Layout.wf L = true :=
  ((convert_sat F).2 L h).1 hF

/-- every layout loading accepts is well-formed -/
theorem load_wf {j : Json} {L : Layout} (h : load j = Outcome.ok L) : Layout.wf L = true :=
  Saveable.wf ((load_sat j).2 L h)

/-- A well-formed layout installs in the mapper (`Mapper::for_layout` does not panic; `none` models
its panic).  From then on `step` and `run` are total functions of the model, so every history of
key events is processed.  Index-safety of the Rust index loops is `C14_steps` / `C14_idx`
(`Props/C14Idx.lean`), not this theorem. -/
theorem C14_run {L : Layout} (h : Layout.wf L = true) : forLayout L ≠ none := by
  simp [forLayout, h]

/-- the two sentences of C14 together: loading never panics, and what it accepts installs -/
theorem C14 (j : Json) :
    load j ≠ Outcome.panic ∧ ∀ L, load j = Outcome.ok L → forLayout L = some State.init := by
  refine ⟨C14_load j, fun L h => ?_⟩
  simp [forLayout, load_wf h]

/-! ## the hypotheses are met by a concrete instance -/

/-- a fragment of the built-in easy-symbols layout:
`{"mappings":[{"from":"CAPSLOCK","to":"@symbol"},{"from":"RIGHTALT","to":"@symbol"},
  {"from":["@symbol",{"row":"Q"}],"to":{"letters":" {}% \\*][|~"}}]}` -/
def easySymbolsFragment : Json :=
  Json.obj [(Parse.sMappings, Json.arr [
    Json.obj [(Parse.sFrom, Json.str ['C','A','P','S','L','O','C','K']), (Parse.sTo, Json.str ['@','s','y','m','b','o','l'])],
    Json.obj [(Parse.sFrom, Json.str ['R','I','G','H','T','A','L','T']), (Parse.sTo, Json.str ['@','s','y','m','b','o','l'])],
    Json.obj [(Parse.sFrom, Json.arr [Json.str ['@','s','y','m','b','o','l'], Json.obj [(Parse.sRow, Json.str ['Q'])]]),
              (Parse.sTo, Json.obj [(Parse.sLetters, Json.str [' ','{','}','%',' ','\\','*',']','[','|','~'])])]])]

/-- it loads: CAPSLOCK alone (not a modifier key: the alias definition also becomes a mapping to
nothing) plus 9 mappings for each of CAPSLOCK (58) and RIGHTALT (100) — 19 mappings; e.g. `@symbol`+W
gives Shift+`[` = `{` -/
example : load easySymbolsFragment = Outcome.ok [
    ⟨[58], [], Repeat.normal, []⟩,
    ⟨[58, 17], [42, 26], Repeat.normal, []⟩, ⟨[58, 18], [42, 27], Repeat.normal, []⟩,
    ⟨[58, 19], [42, 6], Repeat.normal, []⟩, ⟨[58, 21], [43], Repeat.normal, []⟩,
    ⟨[58, 22], [42, 9], Repeat.normal, []⟩, ⟨[58, 23], [27], Repeat.normal, []⟩,
    ⟨[58, 24], [26], Repeat.normal, []⟩, ⟨[58, 25], [42, 43], Repeat.normal, []⟩,
    ⟨[58, 26], [42, 41], Repeat.normal, []⟩,
    ⟨[100, 17], [42, 26], Repeat.normal, []⟩, ⟨[100, 18], [42, 27], Repeat.normal, []⟩,
    ⟨[100, 19], [42, 6], Repeat.normal, []⟩, ⟨[100, 21], [43], Repeat.normal, []⟩,
    ⟨[100, 22], [42, 9], Repeat.normal, []⟩, ⟨[100, 23], [27], Repeat.normal, []⟩,
    ⟨[100, 24], [26], Repeat.normal, []⟩, ⟨[100, 25], [42, 43], Repeat.normal, []⟩,
    ⟨[100, 26], [42, 41], Repeat.normal, []⟩] := by decide +kernel

/-- a rejected file: the alias is not defined -/
example : load (Json.obj [(Parse.sMappings, Json.arr [
    Json.obj [(Parse.sFrom, Json.arr [Json.str ['@','x'], Json.str ['A']]), (Parse.sTo, Json.str ['B'])]])])
    = Outcome.error := by decide +kernel

/-- a file `convert` rejects with the duplicate check that `load_wf` rests on: `["A","A"] → "B"` -/
example : load (Json.obj [(Parse.sMappings, Json.arr [
    Json.obj [(Parse.sFrom, Json.arr [Json.str ['A'], Json.str ['A']]), (Parse.sTo, Json.str ['B'])]])])
    = Outcome.error := by decide +kernel

/-- `convert_wf` needs its hypothesis: an alias definition without keys (which the parser cannot
produce) converts to a mapping with an empty trigger -/
example : convert [Fancy.Mapping.alias ⟨⟨[]⟩, ⟨[], ['@','x']⟩⟩] = Outcome.ok [⟨[], [], Repeat.normal, []⟩] := by
  decide +kernel

end TmVerif
