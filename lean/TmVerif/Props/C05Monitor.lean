/-
C05, monitor form: the Bool monitors `monC05foreign`, `monC05empty`, `monC05release`, `monC05keep`
(and their conjunction `monC05`) return `true` on every transition of the model from every reachable
state.
-/
import TmVerif.Props.C05b
import TmVerif.Props.C03

namespace TmVerif

/-! ### observation record: projections -/

theorem obs_V' (L : Layout) (x : Sys) (e : Event) : (x.obs L e).V' = (x.next L (Op.ev e)).V := rfl

theorem obs_accepted_pressed (L : Layout) (x : Sys) (k : Key) :
    (x.obs L (Event.pressed k)).accepted = !x.s.inp.contains k := rfl

theorem obs_accepted_released (L : Layout) (x : Sys) (k : Key) :
    (x.obs L (Event.released k)).accepted = x.s.inp.contains k := rfl

/-- an ignored event changes nothing and emits nothing -/
theorem step_ignored_obs (L : Layout) (x : Sys) (e : Event) (h : (x.obs L e).accepted = false) :
    step L x.s e = (x.s, ⟨[], RRepeat.noChange⟩) := by
  cases e with
  | pressed k =>
    have hk : k ∈ x.s.inp := by simpa [obs_accepted_pressed] using h
    exact step_pressed_ignored L x.s k hk
  | released k =>
    have hk : k ∉ x.s.inp := by simpa [obs_accepted_released] using h
    exact step_released_ignored L x.s k hk

/-! ### foreign keys -/

theorem C05foreign_monitor (L : Layout) (x : Sys) (hx : Reachable L x) (e : Event) :
    monC05foreign (x.obs L e) = true := by
  have hs := hx.sinv
  unfold monC05foreign
  dsimp only
  refine Bool.and_eq_true_iff.mpr ⟨?_, ?_⟩
  · -- the event's own key
    split
    · rename_i hc
      rw [Bool.and_eq_true_iff] at hc
      obtain ⟨hf, hacc⟩ := hc
      cases e with
      | pressed k =>
        have hf' : foreign L k = true := hf
        have hk : k ∉ x.s.inp := by simpa [obs_accepted_pressed] using hacc
        have c := C05_foreign_press L x hx k hf' hk
        have h1 : (x.obs L (Event.pressed k)).evs.getLast? = some (Event.pressed k) := c.1
        have h2 : k ∈ (x.obs L (Event.pressed k)).V' := c.2
        have hkey : (x.obs L (Event.pressed k)).e = Event.pressed k := rfl
        simp only [hkey, Event.key, h1, beq_self_eq_true, Bool.true_and]
        simpa using h2
      | released k =>
        have hf' : foreign L k = true := hf
        have hk : k ∈ x.s.inp := by simpa [obs_accepted_released] using hacc
        have c := C05_foreign_release L x hx k hf' hk
        have h2 : k ∉ (x.obs L (Event.released k)).V' := c
        have hkey : (x.obs L (Event.released k)).e = Event.released k := rfl
        simp only [hkey, Event.key]
        simpa using h2
    · rfl
  · -- every other foreign key
    rw [List.all_eq_true]
    intro y _
    split
    · rename_i hc
      rw [Bool.and_eq_true_iff] at hc
      obtain ⟨hf, hoth⟩ := hc
      have hf' : foreign L y = true := hf
      have hother : e.key ≠ y ∨ (x.obs L e).accepted = false := by
        have he : (x.obs L e).e = e := rfl
        rw [he] at hoth
        cases hacc : (x.obs L e).accepted with
        | false => exact Or.inr rfl
        | true =>
          left
          intro heq
          simp [hacc, heq] at hoth
      have c := C05_foreign_other L x hx y hf' e hother
      have hnp : pressedIn (x.obs L e).evs y = false := by
        have : Event.pressed y ∉ (x.obs L e).evs := c.1
        simpa [pressedIn] using this
      have hV : (x.obs L e).V = x.V := rfl
      simp only [hnp, Bool.not_false, Bool.true_and, obs_V', hV, Bool.or_eq_true, Bool.and_eq_true]
      rcases c.2 with h | ⟨h1, h2, h3, k0, m, he, hfm, hrep⟩
      · left
        by_cases hyV : y ∈ x.V
        · simp [hyV, h.mpr hyV]
        · have : y ∉ (x.next L (Op.ev e)).V := fun hh => hyV (h.mp hh)
          simp [hyV, this]
      · right
        subst he
        have hk0 : k0 ∉ x.s.inp := by
          intro hk0
          apply h2
          simp only [Sys.next, step_pressed_ignored L x.s k0 hk0, foldEvs_nil]
          exact h1
        have hfired : (x.obs L (Event.pressed k0)).firedNoRepeat = true := by
          simp only [Obs.firedNoRepeat, fired_eq hs k0 hk0, hfm, hrep, Bool.not_false]
        refine ⟨⟨⟨?_, ?_⟩, h3⟩, hfired⟩
        · simpa using h1
        · simpa using h2
    · rfl

theorem C05foreign_monitor_ev (L : Layout) (x : Sys) (hx : ReachableEv L x) (e : Event) :
    monC05foreign (x.obs L e) = true := C05foreign_monitor L x hx.reachable e

/-! ### empty layout -/

theorem C05empty_monitor (L : Layout) (x : Sys) (hx : Reachable L x) (e : Event) :
    monC05empty (x.obs L e) = true := by
  unfold monC05empty
  cases hL : (x.obs L e).L.isEmpty with
  | false => simp
  | true =>
    have hL0 : L.isEmpty = true := hL
    have hL' : L = [] := by simpa [List.isEmpty_iff] using hL0
    subst hL'
    have c := C05_empty x hx e
    have hevs : (x.obs [] e).evs = (step [] x.s e).2.events := rfl
    have he : (x.obs [] e).e = e := rfl
    simp only [if_true, hevs, he, c]
    cases (x.obs [] e).accepted <;> simp

theorem C05empty_monitor_ev (L : Layout) (x : Sys) (hx : ReachableEv L x) (e : Event) :
    monC05empty (x.obs L e) = true := C05empty_monitor L x hx.reachable e

/-! ### releases -/

theorem C05release_monitor (L : Layout) (x : Sys) (hx : ReachableEv L x) (e : Event) :
    monC05release (x.obs L e) = true := by
  have hs := hx.reachable.sinv
  unfold monC05release
  cases e with
  | pressed k => rfl
  | released k =>
    have he : (x.obs L (Event.released k)).e = Event.released k := rfl
    simp only [he]
    cases hacc : (x.obs L (Event.released k)).accepted with
    | false => simp
    | true =>
      simp only [Bool.not_true, Bool.false_eq_true, if_false, List.all_eq_true]
      have hk : k ∈ x.s.inp := by simpa [obs_accepted_released] using hacc
      intro ev hev
      have hev' : ev ∈ (step L x.s (Event.released k)).2.events := hev
      cases ev with
      | pressed y =>
        exfalso
        rw [step_release hk] at hev'
        cases (releaseKey_spec k hs.inv.i).2.allRel _ hev'
      | released y =>
        simp only [Bool.and_eq_true, Bool.or_eq_true]
        refine ⟨?_, ?_⟩
        · rcases C05_release L x hx.reachable k hk y hev' with h | ⟨m, hm, hkm, hym⟩
          · left; simpa using h
          · right
            have hact : (x.obs L (Event.released k)).s.active = x.s.active := rfl
            simp only [hact, List.any_eq_true, Bool.and_eq_true, List.contains_eq_mem, decide_eq_true_eq]
            exact ⟨m, hm, hkm, hym⟩
        · cases hL : noAbsLayout (x.obs L (Event.released k)).L with
          | false => left; rfl
          | true =>
            right
            have hL' : NoAbs L := (noAbsLayout_iff L).mp hL
            have c := C05_release_keeps L hL' x hx k hk y hev'
            have hact : (x.obs L (Event.released k)).s'.active = (step L x.s (Event.released k)).1.active := rfl
            simp only [hact, Bool.not_eq_eq_eq_not, Bool.not_true, List.any_eq_false, List.contains_eq_mem,
              decide_eq_true_eq]
            exact c

/-! ### in-effect mappings -/

theorem exclusive_iff (L : Layout) (m : Mapping) (y : Key) :
    exclusive L m y = true ↔ ∀ m2, m2 ∈ L → y ∈ m2.to → m2 = m := by
  simp only [exclusive, Bool.not_eq_eq_eq_not, Bool.not_true, List.any_eq_false, Bool.and_eq_true,
    bne_iff_ne, ne_eq, List.contains_eq_mem, decide_eq_true_eq, not_and]
  constructor
  · intro h m2 hm2 hy
    cases Classical.em (m2 = m) with
    | inl h1 => exact h1
    | inr h1 => exact absurd hy (h m2 hm2 h1)
  · intro h m2 hm2 hne hy
    exact hne (h m2 hm2 hy)

theorem C05keep_monitor (L : Layout) (x : Sys) (hx : ReachableEv L x) (e : Event) :
    monC05keep (x.obs L e) = true := by
  have hs := hx.reachable.sinv
  unfold monC05keep
  cases hL : noAbsLayout (x.obs L e).L with
  | false => simp
  | true =>
    have hL' : NoAbs L := (noAbsLayout_iff L).mp hL
    simp only [Bool.not_true, Bool.false_eq_true, if_false, List.all_eq_true]
    intro m hm
    have hm0 : m ∈ x.s.active := hm
    cases hc1 : (!(x.obs L e).s'.active.contains m || m.frm.contains (x.obs L e).e.key) with
    | true => simp
    | false =>
      simp only [Bool.false_eq_true, if_false]
      simp only [Bool.or_eq_false_iff, Bool.not_eq_eq_eq_not, Bool.not_false, List.contains_eq_mem,
        decide_eq_true_eq, decide_eq_false_iff_not] at hc1
      obtain ⟨hm1, hek⟩ := hc1
      have hm' : m ∈ (step L x.s e).1.active := hm1
      have hek' : e.key ∉ m.frm := hek
      rw [List.all_eq_true]
      intro y hy
      cases hc2 : (!exclusive (x.obs L e).L m y || !(x.obs L e).V.contains y) with
      | true => simp
      | false =>
        simp only [Bool.false_eq_true, if_false]
        simp only [Bool.or_eq_false_iff, Bool.not_eq_eq_eq_not, Bool.not_false, List.contains_eq_mem,
          decide_eq_true_eq] at hc2
        obtain ⟨hex0, hV0⟩ := hc2
        have hex : ∀ m2, m2 ∈ L → y ∈ m2.to → m2 = m := (exclusive_iff L m y).mp hex0
        have hV : y ∈ x.V := hV0
        -- what is to be shown in both non-trivial cases
        have goalOf : (y ∈ (x.next L (Op.ev e)).V ∧ Event.released y ∉ (step L x.s e).2.events) →
            ((x.obs L e).V'.contains y && !releasedIn (x.obs L e).evs y) = true := by
          intro ⟨h1, h2⟩
          have h2' : Event.released y ∉ (x.obs L e).evs := h2
          simp only [obs_V', Bool.and_eq_true, List.contains_eq_mem, decide_eq_true_eq, releasedIn,
            Bool.not_eq_eq_eq_not, Bool.not_true, decide_eq_false_iff_not]
          exact ⟨h1, h2'⟩
        cases ham : isActionMapping m with
        | false =>
          simp only [Bool.not_false, if_true]
          cases hay : isActionKey y with
          | true => simp
          | false =>
            simp only [Bool.false_eq_true, if_false]
            exact goalOf (C05_keep L hL' x hx e m hm0 hm' hek' y hy hex hV (Or.inl ⟨ham, hay⟩))
        | true =>
          simp only [Bool.not_true, Bool.false_eq_true, if_false]
          cases hc3 : (m.rep.isNormal && !isAnyModifier m.to) with
          | false => simp
          | true =>
            simp only [if_true, Bool.or_eq_true]
            simp only [Bool.and_eq_true, Bool.not_eq_eq_eq_not, Bool.not_true] at hc3
            cases hfn : (x.obs L e).firedNoRepeat with
            | true => left; rfl
            | false =>
              right
              cases hacc : (x.obs L e).accepted with
              | false =>
                -- an ignored event: nothing happens
                have hst := step_ignored_obs L x e hacc
                apply goalOf
                simp only [Sys.next, hst, foldEvs_nil]
                exact ⟨hV, by simp⟩
              | true =>
                apply goalOf
                apply C05_keep L hL' x hx e m hm0 hm' hek' y hy hex hV
                right
                refine ⟨hc3.2, ?_⟩
                intro k fm he hfm
                subst he
                have hk : k ∉ x.s.inp := by simpa [obs_accepted_pressed] using hacc
                have : (x.obs L (Event.pressed k)).firedNoRepeat = !fm.rep.isNormal := by
                  simp only [Obs.firedNoRepeat, fired_eq hs k hk, hfm]
                rw [this] at hfn
                simpa using hfn

/-! ### the conjunction -/

theorem C05_monitor (L : Layout) (x : Sys) (hx : ReachableEv L x) (e : Event) :
    monC05 (x.obs L e) = true := by
  simp only [monC05, Bool.and_eq_true]
  exact ⟨⟨⟨C05foreign_monitor L x hx.reachable e, C05empty_monitor L x hx.reachable e⟩,
    C05release_monitor L x hx e⟩, C05keep_monitor L x hx e⟩

end TmVerif
