/-
C12 — Tablet mode silences the virtual keyboard.

"When the tablet-mode switch turns on, all keys held on the virtual keyboard are released immediately
and, until it turns off, nothing at all is written to the virtual keyboard whatever happens on the
physical keyboard or the repeat timer.  After it turns off mapping resumes as from a fresh start,
and releases of keys pressed before or during tablet mode produce no output."

Quantifier: every layout, every script of driver answers: any key history, any placement of tablet
on/off events (repeated on or off, while chords or repeats are in progress, in the same wake-up as
keyboard events, in either device order).
-/
import TmVerif.Props.C10
import TmVerif.Props.C09

namespace TmVerif

theorem releaseAll_of_inp_nil (L : Layout) (s : State) (h : s.inp = []) : releaseAll L s = (s, []) := by
  simp [releaseAll, h, releaseAllLoop]

/-- the mapper of a loop that satisfies `LoopInv` is a reachable mapper state -/
theorem LoopInv.inv {L : Layout} {x : Machine} {g : Ghost} (h : LoopInv L x g) :
    Inv L (Sys.run L Sys.init g.ops).P x.v.m := by
  rw [h.mapper]; exact (Reachable.sinv ⟨g.ops, rfl⟩).inv

/-- C12 (on): reading `On` (from any point of any run) puts the loop in tablet mode, stops the
repeat timer, and the very next thing it does is write the release-all batch (if there is anything
to release) — after which nothing is held on the virtual keyboard. -/
theorem C12_on (L : Layout) (x : Machine) (g : Ghost) (h : LoopInv L x g) (rest : List Dev)
    (hc : x.c = Ctl.readTab rest) :
    let y := advance L x (Resp.tab (Next.one TabletEv.on))
    y.v.inTablet = true ∧ y.v.rep = WorkingRepeat.idle ∧
    y.v.m = (releaseAll L x.v.m).1 ∧
    (if (releaseAll L x.v.m).2.isEmpty then y.c = Ctl.readTab rest else y.c = Ctl.sendRel rest (releaseAll L x.v.m).2) ∧
    y.v.m.inp = [] ∧ held y.v.m = [] := by
  obtain ⟨v, c⟩ := x
  simp only at hc; subst hc
  have ra := releaseAll_spec L _ v.m h.inv
  have hr := ra.1.rest ra.2.2.2
  simp only [adv_tab_one]
  split <;> simp_all [held]

/-- the invariant of tablet mode: the mapper holds no input key -/
def TabInv (x : Machine) : Prop := x.v.inTablet = true → x.v.m.inp = []

theorem TabInv.adv {L : Layout} {x y : Machine} {r : Resp} {g : Ghost} (h : LoopInv L x g) (ht : TabInv x)
    (ha : Adv L x r y) : TabInv y := by
  unfold TabInv at ht ⊢
  rcases ha.frame with ⟨hm, hi⟩ | ⟨_, hi⟩ | ⟨hm, _⟩
  · rw [hm, hi]; exact ht
  · simp [hi]
  · rw [hm]; exact fun _ => (releaseAll_spec L _ x.v.m h.inv).2.2.2

theorem TabInv.advance {L : Layout} {x : Machine} {g : Ghost} (h : LoopInv L x g) (ht : TabInv x) (r : Resp) :
    TabInv (advance L x r) := by
  rcases advance_arm L x r with ha | ⟨hb, _⟩
  · exact ht.adv h ha
  · rw [hb]; exact ht

/-- tablet mode, once the release-all batch of `On` is out: the mapper holds no input key (so a further
`On` or the `Off` has nothing to release) and no send is pending -/
structure Silent (x : Machine) : Prop where
  tablet : x.v.inTablet = true
  inp : x.v.m.inp = []
  noSend : x.c.isSend = false

/-- a send becomes pending only outside tablet mode, or for a release-all with something to release -/
theorem Adv.isSend {L : Layout} {x y : Machine} {r : Resp} (ha : Adv L x r y) (hy : y.c.isSend = true) :
    x.v.inTablet = false ∨ (releaseAll L x.v.m).2.isEmpty = false := by
  cases ha with
  | timedOutChord _ _ _ _ _ _ hit _ | kbdOneSend _ _ _ hit _ => exact Or.inl hit
  | tabOneSend _ _ _ hemp => exact Or.inr hemp
  | _ => simp [Ctl.isSend] at hy

/-- no arm leaves the silence, except that `Off` ends tablet mode -/
theorem Silent.adv {L : Layout} {x y : Machine} {r : Resp} (h : Silent x) (ha : Adv L x r y) :
    y.v.m.inp = [] ∧ y.c.isSend = false ∧ (r ≠ Resp.tab (Next.one TabletEv.off) → y.v.inTablet = true) := by
  obtain ⟨hin, hinp, hns⟩ := h
  have hra := releaseAll_of_inp_nil L x.v.m hinp
  refine ⟨?_, ?_, ?_⟩
  · rcases ha.frame with ⟨hm, _⟩ | ⟨hi, _⟩ | ⟨hm, _⟩
    · rw [hm]; exact hinp
    · rw [hin] at hi; cases hi
    · rw [hm, hra]; exact hinp
  · cases hy : y.c.isSend with
    | false => rfl
    | true => rcases ha.isSend hy with hi | he <;> simp_all
  · intro hr
    rcases ha.frame with ⟨_, hi⟩ | ⟨hi, _⟩ | ⟨_, tev, rfl, hi⟩
    · rw [hi]; exact hin
    · rw [hin] at hi; cases hi
    · cases tev <;> first | exact hi | exact absurd rfl hr

/-- C12 (silent): in tablet mode, once the release-all batch of `On` is out, NO answer of the
environment — keyboard events, timer expiry, repeated `On`, spurious wake-ups — makes the loop write
to the virtual keyboard; only `Off` ends tablet mode, and it writes nothing either. -/
theorem C12_silent (L : Layout) (x : Machine) (g : Ghost) (h : LoopInv L x g) (ht : TabInv x)
    (hin : x.v.inTablet = true) (hns : x.c.isSend = false) (r : Resp) :
    (advance L x r).c.isSend = false := by
  have _ := h  -- not needed: the silence keeps itself (`Silent.adv`)
  rcases advance_arm L x r with ha | ⟨hb, _⟩
  · exact (Silent.adv ⟨hin, ht hin, hns⟩ ha).2.1
  · rw [hb]; rfl

/-- the call of a machine that is not blocked on a send is not a send -/
theorem calls_cons_of_not_isSend {x : Machine} {c : Call} (hp : pending x = some c) (hns : x.c.isSend = false)
    (cs : List Call) : callsSends (c :: cs) = callsSends cs ∧ callsChords (c :: cs) = callsChords cs := by
  obtain ⟨v, ct⟩ := x
  cases ct <;> cases hp <;> first | exact ⟨rfl, rfl⟩ | cases hns

theorem Silent.run {L : Layout} {x : Machine} (h : Silent x) (rs : List Resp)
    (hoff : Resp.tab (Next.one TabletEv.off) ∉ rs) :
    callsSends (runScript L x rs).1 = [] ∧ callsChords (runScript L x rs).1 = [] := by
  induction rs generalizing x with
  | nil => exact ⟨rfl, rfl⟩
  | cons r rs ih =>
    simp only [runScript]
    cases hp : pending x with
    | none => exact ⟨rfl, rfl⟩
    | some c =>
      simp only [List.mem_cons, not_or] at hoff
      have hc := calls_cons_of_not_isSend hp h.noSend
      simp only [hc]
      rcases advance_arm L x r with ha | ⟨hb, _⟩
      · have h' := h.adv ha
        exact ih ⟨h'.2.2 (Ne.symm hoff.1), h'.1, h'.2.1⟩ hoff.2
      · rw [runScript_stopped (pending_of_bad (by rw [hb]))]; exact ⟨rfl, rfl⟩

/-- C12 (silent), whole runs: from a tablet-mode state that is not in the middle of the `On` release,
any script of answers that contains no `Off` leads to no send at all -/
theorem C12_silent_run (L : Layout) (x : Machine) (g : Ghost) (h : LoopInv L x g) (ht : TabInv x)
    (hin : x.v.inTablet = true) (hns : x.c.isSend = false) (rs : List Resp)
    (hoff : Resp.tab (Next.one TabletEv.off) ∉ rs) :
    callsSends (runScript L x rs).1 = [] ∧ callsChords (runScript L x rs).1 = [] := by
  have _ := h  -- not needed, as in `C12_silent`
  exact Silent.run ⟨hin, ht hin, hns⟩ rs hoff

/-- C12 (off / resume): reading `Off` in tablet mode writes nothing, leaves tablet mode with the timer
stopped and a mapper that holds nothing (no input key, no pass-through key, no output key, no active
mapping) — C06 shows such a mapper answers every event sequence as a fresh one — and a release of a
key pressed before or during tablet mode is ignored by it: no output, repeat state untouched. -/
theorem C12_off (L : Layout) (x : Machine) (g : Ghost) (h : LoopInv L x g) (ht : TabInv x)
    (hin : x.v.inTablet = true) (rest : List Dev) (hc : x.c = Ctl.readTab rest) :
    let y := advance L x (Resp.tab (Next.one TabletEv.off))
    y.c = Ctl.readTab rest ∧ y.v.inTablet = false ∧ y.v.rep = WorkingRepeat.idle ∧ y.v.m = x.v.m ∧
    y.v.m.inp = [] ∧ y.v.m.pass = [] ∧ y.v.m.mapped = [] ∧ y.v.m.active = [] ∧
    (∀ k, step L y.v.m (Event.released k) = (y.v.m, ⟨[], RRepeat.noChange⟩)) := by
  obtain ⟨v, c⟩ := x
  simp only at hc hin; subst hc
  have hinp : v.m.inp = [] := ht hin
  have hr := h.inv.rest hinp
  simp only [adv_tab_one, releaseAll_of_inp_nil L v.m hinp]
  refine ⟨by simp, by simp, by simp, by simp, hinp, hr.1, hr.2.2, hr.2.1, ?_⟩
  intro k
  exact C09_ignored L v.m (Event.released k) (by simp [hinp])

/-- C12 (off, in ANY mode — also a repeated `Off`, or an `Off` that was never preceded by `On`): the loop
leaves tablet mode with the timer stopped, the very next thing it does is write the release-all batch
(if anything is held; nothing in tablet mode, by `C12_off`), and afterwards the mapper holds nothing —
so mapping resumes as from a fresh start (`C06_relAll`) — and ignores a release of any key. -/
theorem C12_off_any (L : Layout) (x : Machine) (g : Ghost) (h : LoopInv L x g) (rest : List Dev)
    (hc : x.c = Ctl.readTab rest) :
    let y := advance L x (Resp.tab (Next.one TabletEv.off))
    y.v.inTablet = false ∧ y.v.rep = WorkingRepeat.idle ∧
    y.v.m = (releaseAll L x.v.m).1 ∧
    (if (releaseAll L x.v.m).2.isEmpty then y.c = Ctl.readTab rest else y.c = Ctl.sendRel rest (releaseAll L x.v.m).2) ∧
    y.v.m.inp = [] ∧ held y.v.m = [] ∧
    (∀ k, step L y.v.m (Event.released k) = (y.v.m, ⟨[], RRepeat.noChange⟩)) := by
  obtain ⟨v, c⟩ := x
  simp only at hc; subst hc
  have ra := releaseAll_spec L _ v.m h.inv
  have hr := ra.1.rest ra.2.2.2
  have hinp : (releaseAll L v.m).1.inp = [] := by
    have := ra
    simp_all
  have hstale : ∀ k, step L (releaseAll L v.m).1 (Event.released k) = ((releaseAll L v.m).1, ⟨[], RRepeat.noChange⟩) :=
    fun k => C09_ignored L _ (Event.released k) (by simp [hinp])
  simp only [adv_tab_one]
  split <;> simp_all [held]

/-- C12 ("releases of keys pressed before or during tablet mode produce no output") at EVERY later state,
not only right after `Off`: start from a mapper that holds no input key (what `On` / `Off` leave behind,
`C12_on`, `C12_off_any`) and let any history `h2` of key events follow; a key that `h2` leaves physically
up — in particular one pressed before or during tablet mode and not pressed again since — is not an
input key of the mapper, so its release is ignored: no output, no state change, repeat untouched. -/
theorem C12_stale_release (L : Layout) (s : State) (hinv : ∃ P, Inv L P s) (hinp : s.inp = [])
    (h2 : List Event) (k : Key) (hk : k ∉ foldEvs [] h2) :
    step L (run L s h2).1 (Event.released k) = ((run L s h2).1, ⟨[], RRepeat.noChange⟩) := by
  obtain ⟨P, hP⟩ := hinv
  -- with no input key the invariant holds for the empty physical set
  have h0 : Inv L [] s := ⟨hP.i, by intro x hx; rw [hinp] at hx; simp at hx, hP.actL, hP.noHid, hP.actNe⟩
  have hrun : ∀ (es : List Event) (Q : List Key) (t : State), Inv L Q t → Inv L (foldEvs Q es) (run L t es).1 := by
    intro es
    induction es with
    | nil => intro Q t ht; exact ht
    | cons e es ih =>
      intro Q t ht
      have h1 := (step_inv L Q t e ht).1
      have : (run L t (e :: es)).1 = (run L (step L t e).1 es).1 := by simp [run]
      rw [this, foldEvs_cons]
      exact ih _ _ h1
  have hfin := hrun h2 [] s h0
  exact C09_ignored L _ (Event.released k) (fun hc => hk (hfin.inpP k hc))

/-! Non-vacuity: `A → B`; A is held (B down) when the switch turns on: B is released at once; the
physical release of A and a new press during tablet mode write nothing; after `Off` the stale
release of the second press is ignored and mapping works again. -/
example :
    let L : Layout := [⟨[30], [48], Repeat.normal, []⟩]
    (Machine.init L).map (fun x0 => (runScript L x0
      [Resp.unit, Resp.poll (PollRes.deviceEvent [Dev.keyboard]), Resp.kbd (Next.one (Event.pressed 30)), Resp.unit,
       Resp.kbd Next.busy, Resp.poll (PollRes.deviceEvent [Dev.tablet, Dev.keyboard]),
       Resp.tab (Next.one TabletEv.on), Resp.unit, Resp.tab Next.busy,
       Resp.kbd (Next.one (Event.released 30)), Resp.kbd (Next.one (Event.pressed 30)), Resp.kbd Next.busy,
       Resp.poll PollRes.timedOut, Resp.poll (PollRes.deviceEvent [Dev.tablet]),
       Resp.tab (Next.one TabletEv.off), Resp.tab Next.busy, Resp.poll (PollRes.deviceEvent [Dev.keyboard]),
       Resp.kbd (Next.one (Event.released 30)), Resp.kbd (Next.one (Event.pressed 30)), Resp.unit]).1.filter
        (fun c => match c with | Call.send _ _ => true | _ => false)) =
    some [Call.send SendKind.step [Event.pressed 48], Call.send SendKind.relAll [Event.released 48],
          Call.send SendKind.step [Event.pressed 48]] := by
  decide

end TmVerif
