/-
C19 — The output stream contains no redundant events.

"Considering everything written to the virtual keyboard in order, a key is pressed only when it is
currently up and released only when it is currently down, so the mapper's own bookkeeping of what
is held always matches the device.  This holds for every mapper step and every release-all batch."

Quantifier: every layout (no well-formedness needed), every history of key events (ill-formed ones
included) with release-all calls interleaved, unbounded length, any number of keys held.
-/
import TmVerif.Proofs.Fired

namespace TmVerif

/-- either kind of operation, from any state satisfying the invariant, emits only legal events -/
theorem C19_op {L : Layout} {x : Sys} (h : SInv L x) (op : Op) : legal x.V (x.out L op) = true :=
  (h.next op).2.1

/-- every step from every reachable state emits only legal events (monitor form) -/
theorem C19_step (L : Layout) (x : Sys) (hx : Reachable L x) (e : Event) :
    monC19 (x.obs L e) = true :=
  C19_op hx.sinv (Op.ev e)

/-- every release-all batch from every reachable state is legal -/
theorem C19_relAll (L : Layout) (x : Sys) (hx : Reachable L x) :
    legal x.V (releaseAll L x.s).2 = true :=
  C19_op hx.sinv Op.relAll

/-- the concatenated outputs of a whole history, folded from an empty virtual keyboard, are legal -/
theorem C19_history (L : Layout) (ops : List Op) :
    legal [] (Sys.outs L Sys.init ops) = true :=
  (outs_legal (SInv.init L) ops).1

/-- the mapper's bookkeeping (`pass_through_keys ∪ mapped_output_keys`) is exactly what is held on the device,
and no key is recorded twice -/
theorem C19_bookkeeping (L : Layout) (x : Sys) (hx : Reachable L x) :
    (∀ k, k ∈ x.V ↔ (k ∈ x.s.pass ∨ k ∈ x.s.mapped)) ∧
    x.s.pass.Nodup ∧ x.s.mapped.Nodup ∧ (∀ k, k ∈ x.s.pass → k ∉ x.s.mapped) :=
  ⟨fun k => (hx.sinv.vheld k).trans (mem_held x.s k), hx.sinv.inv.i.ndPass, hx.sinv.inv.i.ndMapped,
   hx.sinv.inv.i.disj⟩

/-- the release-all monitor used by the driver holds on every reachable state -/
theorem C19_C06_relAll_monitor (L : Layout) (x : Sys) (hx : Reachable L x) :
    monRelAll x.V (releaseAll L x.s).2 (releaseAll L x.s).1 = [] := by
  have h2 := releaseAll_spec L x.P x.s hx.sinv.inv
  have hr := h2.1.rest h2.2.2.2
  have hV : foldEvs x.V (releaseAll L x.s).2 = [] := by
    apply List.eq_nil_iff_forall_not_mem.mpr
    intro k hk
    simpa [Sys.next, held, hr] using ((hx.sinv.next Op.relAll).1.vheld k).mp hk
  simp [monRelAll, C19_relAll L x hx, hV, h2.2.2.2, hr]

/-! Non-vacuity: a concrete history on a concrete layout that fires chords (the D1 witness: two
active chords share an output key, then a third key is pressed); the statement computes. -/
def exLayout : Layout :=
  [⟨[46], [45], Repeat.normal, []⟩, ⟨[42], [42, 45, 48], Repeat.normal, []⟩, ⟨[46], [29, 48, 45], Repeat.normal, []⟩]

def exOps : List Op := [Op.ev (Event.pressed 46), Op.ev (Event.pressed 42), Op.ev (Event.pressed 33)]

example : Sys.outs exLayout Sys.init exOps =
    [Event.pressed 29, Event.pressed 48, Event.pressed 45,
     Event.released 45, Event.released 48, Event.released 29, Event.pressed 42, Event.pressed 45, Event.pressed 48,
     Event.released 45, Event.released 48, Event.released 42, Event.pressed 33] := by decide

example : legal [] (Sys.outs exLayout Sys.init exOps) = true := by decide

end TmVerif
