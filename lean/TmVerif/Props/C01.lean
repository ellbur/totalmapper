/-
C01 — No stuck keys: nothing held on the input means nothing held on the output.

"Whenever every key that was pressed on the physical keyboard has been released again, every key
that was pressed on the virtual keyboard has been released too.  This holds after any sequence of
key events, including sequences that contain duplicate presses or releases of keys that were never
pressed."

Quantifier: every layout, every history (ill-formed events and release-all calls included),
unbounded length, any number of keys held at once (stronger than "at most N").
-/
import TmVerif.Props.C02

namespace TmVerif

/-- at every reachable state: if no key is physically held, no key is held on the virtual keyboard -/
theorem C01 (L : Layout) (x : Sys) (hx : Reachable L x) (hP : x.P = []) : x.V = [] := by
  apply List.eq_nil_iff_forall_not_mem.mpr
  intro k hk
  rcases C02a_strong L x hx k hk with h | ⟨m, _, _, hne, hall⟩
  · simp [hP] at h
  · obtain ⟨t, ht⟩ := List.exists_mem_of_ne_nil _ hne
    simpa [hP] using hall t ht

/-- the same statement in history form -/
theorem C01_history (L : Layout) (ops : List Op) (hP : (Sys.run L Sys.init ops).P = []) :
    (Sys.run L Sys.init ops).V = [] :=
  C01 L _ ⟨ops, rfl⟩ hP

/-- monitor form (what the driver evaluates on the implementation's transitions) -/
theorem C01_monitor (L : Layout) (x : Sys) (hx : Reachable L x) (e : Event) :
    monC01 (x.obs L e) = true := by
  have hn := hx.next (Op.ev e)
  simp only [monC01, Bool.or_eq_true, Bool.not_eq_eq_eq_not, Bool.not_true]
  by_cases hP : (x.obs L e).P' = []
  · right
    have := C01 L _ hn hP
    simp only [Sys.next] at this
    simp [Obs.V', Sys.obs, this]
  · left
    simpa using hP

/-! Non-vacuity: on the built-in caps-for-movement fragment, a history with a chord, an ill-formed
release and a duplicate press ends with nothing held on either side. -/
example :
    let L : Layout := [⟨[58], [], Repeat.normal, []⟩, ⟨[58, 49], [29, 105], Repeat.normal, []⟩]
    let ops := [Op.ev (Event.pressed 58), Op.ev (Event.pressed 49), Op.ev (Event.released 30),
                Op.ev (Event.pressed 49), Op.ev (Event.released 58), Op.ev (Event.released 49)]
    (Sys.run L Sys.init ops).P = [] ∧ (Sys.run L Sys.init ops).V = [] ∧
    Sys.outs L Sys.init ops = [Event.pressed 29, Event.pressed 105, Event.released 105, Event.released 29] := by
  decide

end TmVerif
