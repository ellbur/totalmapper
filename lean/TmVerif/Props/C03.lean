/-
C03 — Pressing a chord fires exactly the last-listed satisfied mapping.

"In a layout without absorbing mappings, when a key goes down the mapping that takes effect is the
last-listed mapping whose final trigger key is that key and whose other trigger keys are all held;
by the end of that step every one of its output keys has been pressed (a non-modifier output key by
an actual press event in that step); with normal repeat they are all held at the end of that step.
If no mapping qualifies, the key itself is passed through unchanged as the last event of the step,
unless a mapping currently in effect mentions it, in which case nothing is emitted."

Quantifier: every layout without absorbing lists, every history of key events, i.e. from every
reachable state (not only from rest).  The fired mapping is observed directly (it becomes the last
entry of the mapper's active list), which is stronger than the "distinguishable outputs" device.
-/
import TmVerif.Proofs.NoAbs

namespace TmVerif

theorem reverse_find?_eq_filter_getLast? {α : Type} (p : α → Bool) (l : List α) :
    l.reverse.find? p = (l.filter p).getLast? := by
  induction l with
  | nil => rfl
  | cons a l ih =>
    simp only [List.reverse_cons, List.find?_append, List.filter_cons, ih]
    cases hp : p a
    · simp [hp]
    · simp only [if_true, List.find?_cons, hp, List.find?_nil]
      cases hl : (l.filter p).getLast? with
      | none =>
        have : l.filter p = [] := List.getLast?_eq_none_iff.mp hl
        simp [this]
      | some b =>
        have hne : l.filter p ≠ [] := by intro h; simp [h] at hl
        rw [List.getLast?_cons_of_ne_nil hne]
        simp [hl]

/-- in a clean state whose input list is the physically held set, the mapping `newly_press` picks is
the last candidate -/
theorem findMapping_eq_candidates {L : Layout} {x : Sys} (hn : NAInv x.P x.s) (hs : SInv L x)
    (k : Key) (hk : k ∉ x.P) :
    findMapping L x.s k = (candidates L (applyEv x.P (Event.pressed k)) k).getLast? := by
  unfold findMapping candidates
  rw [reverse_find?_eq_filter_getLast?]
  have habs : (pressPrep x.s k).absorbed = [] := by simp [pressPrep, hn.clean.abs]
  simp only [habs, ite_self, group, List.filter_filter]
  congr 1
  apply List.filter_congr
  intro m _
  rw [Bool.and_comm]
  congr 1
  simp only [isSupported, pressPrep]
  apply List.all_congr rfl
  intro t
  have : (applyEv x.P (Event.pressed k)).contains t = (x.P.contains t || t == k) := by
    have h1 : ∀ t, t ∈ applyEv x.P (Event.pressed k) ↔ t ∈ x.P ∨ t = k := fun t => mem_applyEv_pressed x.P k t
    by_cases ht : t ∈ x.P <;> by_cases htk : t = k <;> simp [List.contains_eq_mem, h1, ht, htk]
  rw [this]
  have hinp : x.s.inp.contains t = x.P.contains t := by
    by_cases ht : t ∈ x.P
    · simp [ht, hn.pInp t ht]
    · have : t ∉ x.s.inp := fun h => ht (hs.inv.inpP t h)
      simp [ht, this]
  simp only [List.contains_eq_mem] at hinp
  simp [hinp]

/-- a qualifying mapping exists: the LAST one fires, and its output keys are pressed / held -/
theorem C03_fire (L : Layout) (hL : NoAbs L) (x : Sys) (hx : ReachableEv L x) (k : Key) (hk : k ∉ x.P)
    (m : Mapping) (hm : (candidates L (applyEv x.P (Event.pressed k)) k).getLast? = some m) :
    findMapping L x.s k = some m ∧
    (x.next L (Op.ev (Event.pressed k))).s.active.getLast? = some m ∧
    (∀ y, y ∈ m.to → isActionKey y = true → Event.pressed y ∈ (step L x.s (Event.pressed k)).2.events) ∧
    (∀ y, y ∈ m.to → isActionKey y = false → y ∈ (x.next L (Op.ev (Event.pressed k))).V) ∧
    (m.rep.isNormal = true → ∀ y, y ∈ m.to → y ∈ (x.next L (Op.ev (Event.pressed k))).V) := by
  have hs := hx.reachable.sinv
  have hn := hx.nainv hL
  have hki : k ∉ x.s.inp := fun h => hk (hs.inv.inpP k h)
  have hf : findMapping L x.s k = some m := by rw [findMapping_eq_candidates hn hs k hk]; exact hm
  have a := fires_any L x.s k m hs.inv.i hki hf
  have hv := (hx.reachable.next (Op.ev (Event.pressed k))).sinv.vheld
  refine ⟨hf, ?_, a.action, fun y hy hay => (hv y).mpr (a.mods y hy hay), fun hr y hy => (hv y).mpr (a.all hr y hy)⟩
  simp [Sys.next, step_fire hki hf]

/-- no mapping qualifies: pass-through as the last event, or nothing if a mapping in effect mentions the key -/
theorem C03_pass (L : Layout) (hL : NoAbs L) (x : Sys) (hx : ReachableEv L x) (k : Key) (hk : k ∉ x.P)
    (hnone : candidates L (applyEv x.P (Event.pressed k)) k = []) :
    findMapping L x.s k = none ∧
    ((∃ m, m ∈ x.s.active ∧ (k ∈ m.frm ∨ k ∈ m.to)) → (step L x.s (Event.pressed k)).2.events = []) ∧
    ((∀ m, m ∈ x.s.active → k ∉ m.frm ∧ k ∉ m.to) →
      (step L x.s (Event.pressed k)).2.events.getLast? = some (Event.pressed k)) := by
  have hs := hx.reachable.sinv
  have hn := hx.nainv hL
  have hki : k ∉ x.s.inp := fun h => hk (hs.inv.inpP k h)
  have hf : findMapping L x.s k = none := by rw [findMapping_eq_candidates hn hs k hk, hnone]; rfl
  have hkp : k ∉ x.s.pass := fun h => hki (hs.inv.i.passInp k h)
  refine ⟨hf, ?_, ?_⟩
  · rintro ⟨m, hm, hmk⟩
    have hc : noHit x.s k = false := by
      cases h : noHit x.s k with
      | false => rfl
      | true => exact absurd hmk (by have := ((noHit_iff x.s k).mp h).1 m hm; grind)
    rw [step_skip hki hf hc]
  · intro hno
    rw [step_pass hki hf ((noHit_iff x.s k).mpr ⟨hno, hkp⟩)]
    simp [passThrough_eq]

theorem noAbsLayout_iff (L : Layout) : noAbsLayout L = true ↔ NoAbs L := by
  simp [noAbsLayout, NoAbs, List.isEmpty_iff]

/-- monitor form -/
theorem C03_monitor (L : Layout) (x : Sys) (hx : ReachableEv L x) (e : Event) :
    monC03 (x.obs L e) = true := by
  unfold monC03
  cases hL : noAbsLayout (x.obs L e).L with
  | false => simp
  | true =>
    have hL' : NoAbs L := (noAbsLayout_iff L).mp hL
    simp only [Bool.not_true, Bool.false_eq_true, if_false]
    cases e with
    | released _ => rfl
    | pressed k =>
      simp only [Sys.obs]
      by_cases hk : k ∈ x.P
      · simp [hk]
      · have hkc : x.P.contains k = false := by simpa using hk
        simp only [hkc, Bool.false_eq_true, if_false]
        have hP' : (x.obs L (Event.pressed k)).P' = applyEv x.P (Event.pressed k) := rfl
        simp only [Sys.obs] at hP'
        rw [hP']
        have hs := hx.reachable.sinv
        have hki : k ∉ x.s.inp := fun h => hk (hs.inv.inpP k h)
        cases hc : (candidates L (applyEv x.P (Event.pressed k)) k).getLast? with
        | some m =>
          have c := C03_fire L hL' x hx k hk m hc
          have hfired := fired_eq hs k hki
          simp only [Sys.obs] at hfired
          simp only [hfired, c.1, beq_self_eq_true, Bool.true_and, Bool.and_eq_true, List.all_eq_true,
            Bool.or_eq_true, Bool.not_eq_eq_eq_not, Bool.not_true]
          refine ⟨?_, ?_⟩
          · intro y hy
            cases hay : isActionKey y with
            | true => simp only [if_true]; simpa [pressedIn] using c.2.2.1 y hy hay
            | false =>
              simp only [Bool.false_eq_true, if_false]
              simpa [Obs.V', Sys.next] using c.2.2.2.1 y hy hay
          · cases hr : m.rep.isNormal with
            | false => left; rfl
            | true =>
              right; intro y hy
              simpa [Obs.V', Sys.next] using c.2.2.2.2 hr y hy
        | none =>
          have hnil : candidates L (applyEv x.P (Event.pressed k)) k = [] := List.getLast?_eq_none_iff.mp hc
          have c := C03_pass L hL' x hx k hk hnil
          simp only
          by_cases hany : (x.s.active.any fun m => m.frm.contains k || m.to.contains k) = true
          · simp only [hany, if_true]
            have : ∃ m, m ∈ x.s.active ∧ (k ∈ m.frm ∨ k ∈ m.to) := by simpa using hany
            simp [c.2.1 this]
          · simp only [hany, Bool.false_eq_true, if_false]
            have : ∀ m, m ∈ x.s.active → k ∉ m.frm ∧ k ∉ m.to := by simpa using hany
            simp [c.2.2 this]

/-! Non-vacuity: unit-test layout `allowed_overlapping`: with CAPSLOCK held, pressing M has two
candidates? no — one; here a layout where two mappings qualify and the LAST listed one fires. -/
example :
    let L : Layout := [⟨[30], [45], Repeat.normal, []⟩, ⟨[42, 30], [46], Repeat.normal, []⟩, ⟨[30], [29, 44], Repeat.normal, []⟩]
    let x := Sys.run L Sys.init [Op.ev (Event.pressed 42)]
    (candidates L (applyEv x.P (Event.pressed 30)) 30).length = 3 ∧
    findMapping L x.s 30 = some ⟨[30], [29, 44], Repeat.normal, []⟩ ∧
    (step L x.s (Event.pressed 30)).2.events = [Event.pressed 29, Event.pressed 44] := by
  decide

end TmVerif
