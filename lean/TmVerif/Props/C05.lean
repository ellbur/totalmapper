/-
C05 — Non-interference: uninvolved keys and mappings are left alone.

"A key that appears nowhere in the layout is pressed on the virtual keyboard exactly when it is
physically pressed and stays down until its physical release (a non-modifier key may be lifted
earlier only by a step that fires a no-repeat mapping); with an empty layout the output stream
equals the input stream.  Releasing a physical key lifts only that key itself and outputs of
mappings that have it in their trigger, and never a key that a mapping remaining in effect outputs.
While a mapping stays in effect, presses and releases of other keys do not lift those of its output
keys that no other mapping also outputs …"

This file: the foreign-key clauses and the empty layout (every layout / history), and the first
release clause (every layout).  The in-effect clauses (layouts without absorbing, as the property
says) are in `Props/C05b.lean`.
-/
import TmVerif.Proofs.Foreign

namespace TmVerif

/-- membership of a foreign key in what is held on the virtual keyboard = membership in pass-through -/
theorem foreign_V_iff {L : Layout} {x : Sys} (hx : Reachable L x) {k : Key} (hf : foreign L k = true) :
    k ∈ x.V ↔ k ∈ x.s.pass := by
  rw [hx.sinv.vheld k, mem_held]
  exact ⟨fun h => h.resolve_right (foreign_not_mapped hx.sinv.inv hf), Or.inl⟩

/-- a foreign key that the mapper does not consider held is passed through: `Pressed(k)` is the last
event of the step and `k` is held afterwards -/
theorem C05_foreign_press (L : Layout) (x : Sys) (hx : Reachable L x) (k : Key) (hf : foreign L k = true)
    (hk : k ∉ x.s.inp) :
    (step L x.s (Event.pressed k)).2.events.getLast? = some (Event.pressed k) ∧
    k ∈ (x.next L (Op.ev (Event.pressed k))).V := by
  have hs := hx.sinv
  have hfo := (foreign_iff L k).mp hf
  have hfm : findMapping L x.s k = none := by
    unfold findMapping
    rw [List.find?_eq_none]
    intro m hm
    simp only [List.mem_reverse, mem_group] at hm
    exact absurd (finalKey_mem hm.2) (hfo m hm.1).1
  have hkp : k ∉ x.s.pass := fun h => hk (hs.inv.i.passInp k h)
  have hno : ∀ m, m ∈ x.s.active → k ∉ m.frm ∧ k ∉ m.to :=
    fun m hm => ⟨(hfo m (hs.inv.actL m hm)).1, (hfo m (hs.inv.actL m hm)).2.1⟩
  have hc : noHit x.s k = true := (noHit_iff x.s k).mpr ⟨hno, hkp⟩
  have hn := (hx.next (Op.ev (Event.pressed k)))
  rw [foreign_V_iff hn hf]
  simp [Sys.next, step_pass hk hfm hc, passThrough_eq]

/-- after the (accepted) physical release of a foreign key it is not held on the virtual keyboard -/
theorem C05_foreign_release (L : Layout) (x : Sys) (hx : Reachable L x) (k : Key) (hf : foreign L k = true)
    (hk : k ∈ x.s.inp) : k ∉ (x.next L (Op.ev (Event.released k))).V := by
  have hn := hx.next (Op.ev (Event.released k))
  rw [foreign_V_iff hn hf]
  intro hp
  have h1 := hn.sinv.inv.i.passInp k hp
  simp [Sys.next, step_release hk] at h1

/-- every other step (an event about another key, or an ignored event) never presses the foreign key
and leaves it as it is — except that a non-modifier foreign key is lifted by a step that fires a
no-repeat mapping -/
theorem C05_foreign_other (L : Layout) (x : Sys) (hx : Reachable L x) (k : Key) (hf : foreign L k = true)
    (e : Event) (hother : e.key ≠ k ∨ (x.obs L e).accepted = false) :
    Event.pressed k ∉ (step L x.s e).2.events ∧
    ((k ∈ (x.next L (Op.ev e)).V ↔ k ∈ x.V) ∨
     (k ∈ x.V ∧ k ∉ (x.next L (Op.ev e)).V ∧ isActionKey k = true ∧
      ∃ k0 m, e = Event.pressed k0 ∧ findMapping L x.s k0 = some m ∧ m.rep.isNormal = false)) := by
  have hs := hx.sinv
  have hfo := (foreign_iff L k).mp hf
  have hn := hx.next (Op.ev e)
  have hkm := foreign_not_mapped hs.inv hf
  have hka := foreign_not_absorbed hx.absL hf
  rw [foreign_V_iff hn hf, foreign_V_iff hx hf]
  simp only [Sys.next]
  have hka0 (k0) : k ∉ (pressPrep x.s k0).absorbed := fun hh => hka (List.mem_filter.mp hh).1
  have h0 (k0) := pressPrep_iinv k0 hs.inv.i
  -- an accepted event is about another key
  have hne (k0) (he : e = Event.pressed k0 ∨ e = Event.released k0) (hacc : (x.obs L e).accepted = true) : k ≠ k0 := by
    rcases hother with h | h
    · rcases he with rfl | rfl <;> exact fun e => h e.symm
    · rw [hacc] at h; cases h
  rcases step_cases L x.s e with ⟨_, hst⟩ | ⟨k0, rfl, hk0, hst⟩ | ⟨k0, m, rfl, hk0, hfm, hst⟩ |
    ⟨k0, rfl, hk0, hfm, hc, hst⟩ | ⟨k0, rfl, hk0, hfm, hc, hst⟩ <;> rw [hst]
  · exact ⟨by simp, Or.inl Iff.rfl⟩
  · refine ⟨fun hp => ?_, Or.inl ?_⟩
    · cases (releaseKey_spec k0 hs.inv.i).2.allRel _ hp
    · exact (releaseKey_pass x.s k0 k (hne k0 (Or.inr rfl) (by simpa [Obs.accepted, Sys.obs] using hk0)) hkm hs.inv.i).1
  · have hmk := hfo m (findMapping_some hfm).1
    have a := addNewMapping_spec _ k0 m (h0 k0) (findMapping_some hfm).2.2
    refine ⟨fun hp => hmk.2.1 (a.2.only k hp), ?_⟩
    simp only [pushInp_ctl, addNewMapping_foreign_pass (pressPrep x.s k0) k0 m (h0 k0) k hmk.1 hmk.2.1 hkm (hka0 k0),
      pressPrep_ctl]
    by_cases hr : m.rep.isNormal = true
    · simp [hr]
    · by_cases hak : isActionKey k = false
      · simp [hak]
      · by_cases hkp : k ∈ x.s.pass
        · right; exact ⟨hkp, by simp [hr, hak], by simpa using hak, k0, m, rfl, hfm, by simpa using hr⟩
        · simp [hkp]
  · have hne := hne k0 (Or.inl rfl) (by simpa [Obs.accepted, Sys.obs] using hk0)
    refine ⟨fun hp => ?_, Or.inl (passThrough_foreign_pass (pressPrep x.s k0) k0 k hne (h0 k0) hkm (hka0 k0))⟩
    simp [passThrough_eq] at hp
    rcases hp with hp | hp
    · cases (passRel_spec _ k0 (h0 k0)).2.allRel _ hp
    · exact hne hp
  · exact ⟨by simp, Or.inl Iff.rfl⟩

theorem all_foreign_nil (k : Key) : foreign [] k = true := by simp [foreign]

/-- in the empty layout every key the mapper considers held is passed through -/
theorem empty_inp_pass (x : Sys) (hx : Reachable [] x) : ∀ k, k ∈ x.s.inp → k ∈ x.s.pass := by
  refine Reachable.induction (motive := fun x => ∀ k, k ∈ x.s.inp → k ∈ x.s.pass) ?_ ?_ x hx
  · intro k hk; simp [Sys.init, State.init] at hk
  · intro y op hy ih k hk
    have hn := hy.next op
    rw [← foreign_V_iff hn (all_foreign_nil k)]
    cases op with
    | relAll =>
      have := (releaseAll_spec [] y.P y.s hy.sinv.inv).2.2.2
      simp only [Sys.next] at hk; rw [this] at hk; simp at hk
    | ev e =>
      have hnofire : ∀ k0, findMapping [] y.s k0 = none := fun k0 => by simp [findMapping, group]
      by_cases hkey : e.key = k ∧ (y.obs [] e).accepted = true
      · obtain ⟨hek, hacc⟩ := hkey
        cases e with
        | pressed k0 =>
          simp only [Event.key] at hek; subst hek
          have hk0 : k0 ∉ y.s.inp := by simpa [Obs.accepted, Sys.obs] using hacc
          exact (C05_foreign_press [] y hy k0 (all_foreign_nil k0) hk0).2
        | released k0 =>
          simp only [Event.key] at hek; subst hek
          simp [Sys.next, (step_released [] y.s k0).1] at hk
      · have hother : e.key ≠ k ∨ (y.obs [] e).accepted = false := by
          by_cases h1 : e.key = k
          · right; cases h2 : (y.obs [] e).accepted with
            | false => rfl
            | true => exact absurd ⟨h1, h2⟩ hkey
          · exact Or.inl h1
        have ho := (C05_foreign_other [] y hy k (all_foreign_nil k) e hother).2
        -- k was already an input key before the step
        have hkold : k ∈ y.s.inp := by
          rcases (step_sub [] y.s e).1 k hk with h | rfl
          · exact h.1
          · exact Classical.byContradiction fun hk0 => hkey ⟨rfl, by simpa [Obs.accepted, Sys.obs] using hk0⟩
        have hkV : k ∈ y.V := (foreign_V_iff hy (all_foreign_nil k)).mpr (ih k hkold)
        rcases ho with ho | ⟨_, _, _, k0, m, _, hfm, _⟩
        · exact ho.mpr hkV
        · rw [hnofire k0] at hfm; simp at hfm

/-- with an empty layout the output stream equals the input stream: each accepted event is echoed,
each ignored event yields nothing -/
theorem C05_empty (x : Sys) (hx : Reachable [] x) (e : Event) :
    (step [] x.s e).2.events = if (x.obs [] e).accepted then [e] else [] := by
  have hs := hx.sinv
  have hact : x.s.active = [] := by
    apply List.eq_nil_iff_forall_not_mem.mpr
    intro m hm; have := hs.inv.actL m hm; simp at this
  have habs : x.s.absorbed = [] := by
    apply List.eq_nil_iff_forall_not_mem.mpr
    intro k hk; obtain ⟨m, hm, _⟩ := hx.absL k hk; simp at hm
  cases e with
  | pressed k =>
    by_cases hk : k ∈ x.s.inp
    · simp [step_ignored (L := []) (s := x.s) (e := Event.pressed k) hk, Obs.accepted, Sys.obs, hk]
    · have hfm : findMapping [] x.s k = none := by simp [findMapping, group]
      have hkp : k ∉ x.s.pass := fun h => hk (hs.inv.i.passInp k h)
      have hc : noHit x.s k = true := (noHit_iff x.s k).mpr ⟨by simp [hact], hkp⟩
      rw [step_pass hk hfm hc]
      have hram : (releaseActionMappings (pressPrep x.s k)).2 = [] := by
        simp [releaseActionMappings, pressPrep, hact, keysToRelease]
      have hrak : (releaseAbsorbedKeys (releaseActionMappings (pressPrep x.s k)).1).2 = [] := by
        have : (releaseActionMappings (pressPrep x.s k)).1.absorbed = [] := by simp [habs]
        simp only [releaseAbsorbedKeys, this, releaseAbsorbedLoop]
      simp only [passThrough, Obs.accepted, Sys.obs]
      cases isActionKey k <;> simp [hk, hram, hrak]
  | released k =>
    by_cases hk : k ∈ x.s.inp
    · rw [step_release hk]
      have hkp : k ∈ x.s.pass := empty_inp_pass x hx k hk
      have hdf : dropFailing k x.s x.s.active.reverse [] = (x.s, []) := by
        have : ∀ s : State, s.active = [] → dropFailing k s s.active.reverse [] = (s, []) := by
          intro s hs
          obtain ⟨i, a, p, mp, ab, at_, rt⟩ := s
          simp only at hs; subst hs; rfl
        exact this x.s hact
      simp only [releaseKey_eq, hdf]
      simp [releaseTail, hkp, Obs.accepted, Sys.obs, hk]
    · simp [step_ignored (L := []) (s := x.s) (e := Event.released k) hk, Obs.accepted, Sys.obs, hk]

theorem releaseTail_released (s : State) (k y : Key) (hy : Event.released y ∈ (releaseTail s k).2) : y = k := by
  by_cases hc : s.pass.contains k = true
  · simp only [releaseTail, hc, if_true, List.mem_singleton, Event.released.injEq] at hy; exact hy
  · simp only [releaseTail, hc] at hy; simp at hy

/-- a key released by the drop loop is an output of one of the dropped mappings -/
theorem dropFailing_released (k : Key) (s : State) (rb after : List Mapping) (h : IInv [] s)
    (hact : s.active = rb.reverse ++ after) (y : Key)
    (hy : Event.released y ∈ (dropFailing k s rb after).2) :
    ∃ m, m ∈ s.active ∧ k ∈ m.frm ∧ y ∈ m.to := by
  induction rb generalizing s after with
  | nil => simp [dropFailing] at hy
  | cons m rb ih =>
    have hact' : s.active = rb.reverse ++ m :: after := by rw [hact]; simp
    simp only [dropFailing] at hy
    split at hy
    · rename_i hf
      simp only [List.mem_append] at hy
      rcases hy with hy | hy
      · -- released by remove_mapping of m: mapped, not used by the others => output of m
        rw [removeMapping_eq] at hy
        simp only [List.mem_map, Event.released.injEq, exists_eq_right, List.mem_filter, List.mem_reverse] at hy
        have hnu : usedBy (rb.reverse ++ after) y = false := by
          have := hy.2; simp only [relP, Bool.and_eq_true, Bool.not_eq_eq_eq_not, Bool.not_true] at this
          exact this.1
        rcases h.mappedAct y hy.1 with h1 | ⟨m', hm', hym'⟩
        · simp at h1
        · rw [hact'] at hm'
          simp only [List.mem_append, List.mem_cons] at hm'
          have hm'eq : m' = m := by
            rcases hm' with h2 | h2 | h2
            · have hu : usedBy (rb.reverse ++ after) y = true := (usedBy_iff _ _).mpr ⟨m', by simp [h2], hym'⟩
              rw [hnu] at hu; simp at hu
            · exact h2
            · have hu : usedBy (rb.reverse ++ after) y = true := (usedBy_iff _ _).mpr ⟨m', by simp [h2], hym'⟩
              rw [hnu] at hu; simp at hu
          subst hm'eq
          exact ⟨m', by rw [hact']; simp, by simpa [failsWhenReleased] using hf, hym'⟩
      · have h1 := removeMapping_spec (m := m) k h hact'
        have ha : (removeMapping s rb.reverse after k).1.active = rb.reverse ++ after := by rw [removeMapping_eq]
        obtain ⟨m', hm', hk', hy'⟩ := ih _ after (h1.1.mono (by simp)) ha hy
        exact ⟨m', h1.2.actSub m' hm', hk', hy'⟩
    · exact ih s (m :: after) h hact' hy


/-- releasing a physical key lifts only that key itself and outputs of mappings (in effect before the
release) that have it in their trigger -/
theorem C05_release (L : Layout) (x : Sys) (hx : Reachable L x) (k : Key) (hk : k ∈ x.s.inp) (y : Key)
    (hy : Event.released y ∈ (step L x.s (Event.released k)).2.events) :
    y = k ∨ ∃ m, m ∈ x.s.active ∧ k ∈ m.frm ∧ y ∈ m.to := by
  rw [step_release hk] at hy
  have hs := hx.sinv
  simp only [releaseKey_eq] at hy
  simp only [List.mem_append] at hy
  rcases hy with hy | hy
  · right
    exact dropFailing_released k x.s x.s.active.reverse [] hs.inv.i (by simp) y hy
  · left; exact releaseTail_released _ k y hy

/-! Non-vacuity: layout `A → B`; F (33) appears nowhere in it.  While A is held (B down) F is passed through
as the only event of its step, and its release lifts exactly F; the release of A lifts only B, the output of the
mapping that has A in its trigger. -/
example :
    let L : Layout := [⟨[30], [48], Repeat.normal, []⟩]
    let s1 := (run L State.init [Event.pressed 30]).1
    let s2 := (step L s1 (Event.pressed 33)).1
    foreign L 33 = true ∧ (step L s1 (Event.pressed 33)).2.events = [Event.pressed 33] ∧
    (step L s2 (Event.released 33)).2.events = [Event.released 33] ∧
    (step L s2 (Event.released 30)).2.events = [Event.released 48] := by
  decide

end TmVerif
