/-
C04 — Output modifiers are exact when a mapped key goes down (no stale modifiers).

"At the instant a mapping's final output key is pressed on the virtual keyboard, every modifier
listed in that mapping's output is already down.  Any other modifier down at that instant is either
physically held and not part of the mapping's trigger, or is the output of a held
modifier-remapping (a mapping whose output ends in a modifier); in particular modifiers pressed by
an earlier key-producing mapping have been released first."

Quantifier: every layout without absorbing mappings, every history of key events, every step that
fires a key-producing mapping (output ends in a non-modifier key).  For a fired mapping whose
output ends in a modifier nothing is claimed (as the property's anchor says).
-/
import TmVerif.Proofs.Compat
import TmVerif.Proofs.Consumed

namespace TmVerif

theorem collectKeys_mono (mapped acc ks : List Key) (x : Key) (hx : x ∈ acc) : x ∈ collectKeys mapped acc ks := by
  induction ks generalizing acc with
  | nil => exact hx
  | cons k ks ih =>
    simp only [collectKeys]; split
    · exact ih _ (by simp [hx])
    · exact ih _ hx

theorem collectKeys_complete (mapped acc ks : List Key) (x : Key) (hx : x ∈ ks) (hm : x ∈ mapped) :
    x ∈ collectKeys mapped acc ks := by
  induction ks generalizing acc with
  | nil => simp at hx
  | cons k ks ih =>
    simp only [collectKeys]
    rcases List.mem_cons.mp hx with rfl | hx
    · by_cases hacc : x ∈ acc
      · split
        · exact collectKeys_mono _ _ _ _ (by simp [hacc])
        · exact collectKeys_mono _ _ _ _ hacc
      · have : (mapped.contains x && !acc.contains x) = true := by simp [hm, hacc]
        simp only [this, if_true]
        exact collectKeys_mono _ _ _ _ (by simp)
    · split
      · exact ih _ hx
      · exact ih _ hx

theorem keysToRelease_mono (mapped acc : List Key) (ms : List Mapping) (x : Key) (hx : x ∈ acc) :
    x ∈ keysToRelease mapped acc ms := by
  induction ms generalizing acc with
  | nil => exact hx
  | cons m ms ih =>
    simp only [keysToRelease]; split
    · exact ih _ (collectKeys_mono _ _ _ _ hx)
    · exact ih _ hx

/-- `release_action_mappings` collects every mapped output key of every active key-producing mapping
that has more than one output key and carries a modifier -/
theorem keysToRelease_complete (mapped acc : List Key) (ms : List Mapping) (m : Mapping) (x : Key)
    (hm : m ∈ ms) (ha : isActionMapping m = true) (hl : m.to.length > 1) (hmod : isAnyModifier m.to = true)
    (hx : x ∈ m.to) (hmp : x ∈ mapped) : x ∈ keysToRelease mapped acc ms := by
  induction ms generalizing acc with
  | nil => simp at hm
  | cons m' ms ih =>
    simp only [keysToRelease]
    rcases List.mem_cons.mp hm with rfl | hm
    · have : (isActionMapping m && decide (m.to.length > 1) && isAnyModifier m.to) = true := by simp [ha, hl, hmod]
      simp only [this, if_true]
      exact keysToRelease_mono _ _ _ _ (collectKeys_complete _ _ _ _ (by simp [hx]) hmp)
    · split
      · exact ih _ hm
      · exact ih _ hm

theorem pressAll_append (s : State) (a b : List Key) :
    pressAll s (a ++ b) =
      ((pressAll (pressAll s a).1 b).1, (pressAll s a).2 ++ (pressAll (pressAll s a).1 b).2) := by
  induction a generalizing s with
  | nil => simp [pressAll]
  | cons k ks ih => simp only [List.cons_append, pressAll_cons, ih, List.append_assoc]

/-- the modifiers held at the instant described by C04, as a predicate on the held-set `W` then -/
structure C04At (L : Layout) (x : Sys) (m : Mapping) (W : List Key) : Prop where
  own : ∀ y, y ∈ m.to → isActionKey y = false → y ∈ W
  other : ∀ y, y ∈ W → isActionKey y = false → y ∉ m.to →
    (y ∈ x.P ∧ y ∉ m.frm) ∨ ∃ m2, m2 ∈ x.s.active ∧ isActionMapping m2 = false ∧ y ∈ m2.to

/-- C04: in a layout without absorbing, when a step fires a key-producing mapping `m` with final
output key `kl`, the step's events split as `pre ++ [Pressed kl] ++ post` with no further press of
`kl` in `post`, and the keys held on the virtual keyboard right before that press (`V` folded with
`pre`) satisfy both clauses. -/
theorem C04 (L : Layout) (hL : NoAbs L) (x : Sys) (hx : ReachableEv L x) (k : Key) (hk : k ∉ x.s.inp)
    (m : Mapping) (hm : findMapping L x.s k = some m) (hact : isActionMapping m = true) :
    ∃ kl pre post, m.to.getLast? = some kl ∧
      (step L x.s (Event.pressed k)).2.events = pre ++ [Event.pressed kl] ++ post ∧
      Event.pressed kl ∉ post ∧
      C04At L x m (foldEvs x.V pre) := by
  have hs := hx.reachable.sinv
  have hn := hx.nainv hL
  have hc0 : Clean (pressPrep x.s k) := ⟨by simp [pressPrep, hn.clean.abs], hn.clean.trig⟩
  have h0 := pressPrep_iinv k hs.inv.i
  -- m.to = ini ++ [kl]
  obtain ⟨kl, hkl⟩ : ∃ kl, m.to.getLast? = some kl := by
    unfold isActionMapping at hact; cases h : m.to.getLast? with
    | none => simp [h] at hact
    | some kl => exact ⟨kl, rfl⟩
  have hkla : isActionKey kl = true := by simpa [isActionMapping, hkl] using hact
  obtain ⟨ini, hto⟩ : ∃ ini, m.to = ini ++ [kl] := by
    have hne : m.to ≠ [] := by intro h; simp [h] at hkl
    refine ⟨m.to.dropLast, ?_⟩
    have h1 := List.dropLast_concat_getLast hne
    have h2 : m.to.getLast hne = kl := by
      have := List.getLast?_eq_some_getLast hne
      rw [hkl] at this; exact (Option.some.inj this).symm
    rw [h2] at h1; exact h1.symm
  rw [step_pressed_accepted L x.s k hk, newlyPress_fire hm]
  simp only [addNewMapping_eq, addPhase1_eq]
  have f0 : (pressPrep x.s k).pass = x.s.pass ∧ (pressPrep x.s k).mapped = x.s.mapped ∧
      (pressPrep x.s k).active = x.s.active := ⟨rfl, rfl, rfl⟩
  generalize hs0 : pressPrep x.s k = s0 at *
  have hc1 : Clean (afterConsume s0 m) := ⟨hc0.abs, hc0.trig⟩
  rw [addPhase2_clean k m hc1 (afterConsume_clear s0 m)]
  -- (fix of D7) the block runs when `m` outputs any non-modifier key; the last key of `m` is one
  simp only [producesActionKey_of_isActionMapping m hact, if_true]
  -- the states along the way
  have c := consume_spec s0 m h0
  simp only [List.nil_append] at c
  obtain ⟨c1, cR⟩ := c
  have c2 := cR.emits
  have c5 := fun y => (mem_afterConsume s0 m y).1
  have c6 := fun y => (mem_afterConsume s0 m y).2
  have r := releaseActionMappings_spec c1
  have f1 : (afterConsume s0 m).active = s0.active := rfl
  generalize hs1 : afterConsume s0 m = s1 at *
  have f2 : ∀ y, y ∈ (releaseActionMappings s1).1.pass → y ∈ s1.pass := ram_pass_sub s1
  have f2s := (releaseActionMappings_sub s1).2
  have f2m : ∀ y, y ∈ keysToRelease s1.mapped [] s1.active → y ∉ (releaseActionMappings s1).1.mapped := by
    intro y hy
    simp only [releaseActionMappings, List.mem_filter, not_and, Bool.not_eq_eq_eq_not,
      Bool.not_true, List.contains_eq_mem, decide_eq_false_iff_not, Classical.not_not]
    exact fun _ => hy
  generalize hs2 : (releaseActionMappings s1).1 = s2 at *
  have hev3 : (addPhase3 s2 k m).2 = (pressAll s2 m.to).2 := rfl
  rw [hev3, hto, pressAll_append]
  simp only [pressAll, List.append_nil]
  have pa := pressAll_spec s2 ini r.1 (by intro y hy; rw [hto]; simp [hy])
  generalize hs3 : (pressAll s2 ini).1 = s3 at *
  -- emits up to s3
  have em : Emits (held s0) ((consume m s0.pass).2.2 ++ (releaseActionMappings s1).2 ++ (pressAll s2 ini).2) (held s3) :=
    (c2.trans r.2.emits).trans pa.2.emits
  have hV0 : ∀ y, y ∈ x.V ↔ y ∈ held s0 := by
    intro y; rw [hs.vheld y, mem_held, mem_held, f0.1, f0.2.1]
  have em' := em.congr_left (fun y => (hV0 y).symm)
  -- facts about the held set at s3
  have at3 : C04At L x m (held s3) := by
    constructor
    · intro y hy hay
      rw [hto] at hy
      simp only [List.mem_append, List.mem_singleton] at hy
      rcases hy with hy | hy
      · exact (pa.2.heldIff y).mpr (Or.inr hy)
      · subst hy; rw [hkla] at hay; simp at hay
    · intro y hy hay hyto
      have hyini : y ∉ ini := fun h => hyto (by rw [hto]; simp [h])
      have h2 : y ∈ held s2 := ((pa.2.heldIff y).mp hy).resolve_right hyini
      rcases (mem_held s2 y).mp h2 with hp | hmp
      · left
        have hp1 : y ∈ s1.pass := f2 y hp
        have := (c5 y).mp hp1
        exact ⟨hs.inv.inpP y (hs.inv.i.passInp y (f0.1 ▸ this.1)), this.2.1⟩
      · right
        have hm1 : y ∈ s1.mapped := f2s y hmp
        have hm0 : y ∈ x.s.mapped := by
          rcases (c6 y).mp hm1 with h | h
          · exact f0.2.1 ▸ h
          · exact absurd h.2 hyto
        rcases hs.inv.i.mappedAct y hm0 with h | ⟨m2, hm2, hy2⟩
        · simp at h
        · refine ⟨m2, hm2, ?_, hy2⟩
          cases ha2 : isActionMapping m2 with
          | false => rfl
          | true =>
            exfalso
            -- y would have been collected and released
            obtain ⟨kl2, hkl2⟩ : ∃ kl2, m2.to.getLast? = some kl2 := by
              unfold isActionMapping at ha2; cases h : m2.to.getLast? with
              | none => simp [h] at ha2
              | some kl2 => exact ⟨kl2, rfl⟩
            have hkl2a : isActionKey kl2 = true := by simpa [isActionMapping, hkl2] using ha2
            have hne2 : y ≠ kl2 := by intro e; rw [e, hkl2a] at hay; simp at hay
            have hlen : m2.to.length > 1 := by
              have h1 : kl2 ∈ m2.to := List.mem_of_getLast? hkl2
              match hmt : m2.to, hy2, h1 with
              | [a], hy2, h1 => simp at hy2 h1; exact absurd (hy2.trans h1.symm) hne2
              | a :: b :: rest, _, _ => simp
            have hmod : isAnyModifier m2.to = true := by
              simp only [isAnyModifier, List.any_eq_true]
              exact ⟨y, hy2, by simp [hay]⟩
            have hm2' : m2 ∈ s1.active := by rw [f1, f0.2.2]; exact hm2
            have hin : y ∈ keysToRelease s1.mapped [] s1.active :=
              keysToRelease_complete _ _ _ m2 y hm2' ha2 hlen hmod hy2 hm1
            exact f2m y hin hmp
  -- now split on how the final key is pressed
  have hpo : (pressOne s3 kl).2 = [Event.pressed kl] ∨ (pressOne s3 kl).2 = [Event.released kl, Event.pressed kl] := by
    unfold pressOne; simp only [hkla, if_true]
    split
    · exact Or.inr rfl
    · split
      · exact Or.inr rfl
      · exact Or.inl rfl
  have hpost : ∀ e, e ∈ (addPhase4 (addPhase3 s2 k m).1 k m).2.1 → e.isRelease = true := by
    intro e he
    have : ∀ (s : State) (e : Event), e ∈ (addPhase4 s k m).2.1 → e.isRelease = true := by
      intro s e he
      unfold addPhase4 at he
      cases hr : m.rep <;> simp [hr, releaseAllActionKeys] at he
      all_goals (rcases he with ⟨a, _, rfl⟩ | ⟨a, _, rfl⟩ <;> rfl)
    exact this _ e he
  have hnot : Event.pressed kl ∉ (addPhase4 (addPhase3 s2 k m).1 k m).2.1 := by
    intro h; have := hpost _ h; simp [Event.isRelease] at this
  rcases hpo with hpo | hpo
  · refine ⟨kl, (consume m s0.pass).2.2 ++ (releaseActionMappings s1).2 ++ (pressAll s2 ini).2,
      (addPhase4 (addPhase3 s2 k m).1 k m).2.1, by simp, ?_, hnot, ?_⟩
    · rw [hpo]; simp [List.append_assoc]
    · exact ⟨fun y hy hay => (em'.2 y).mpr (at3.own y hy hay),
             fun y hy hay hyto => at3.other y ((em'.2 y).mp hy) hay hyto⟩
  · refine ⟨kl, (consume m s0.pass).2.2 ++ (releaseActionMappings s1).2 ++ (pressAll s2 ini).2 ++ [Event.released kl],
      (addPhase4 (addPhase3 s2 k m).1 k m).2.1, by simp, ?_, hnot, ?_⟩
    · rw [hpo]; simp [List.append_assoc]
    · have hiff : ∀ y, y ∈ foldEvs x.V ((consume m s0.pass).2.2 ++ (releaseActionMappings s1).2 ++ (pressAll s2 ini).2 ++
          [Event.released kl]) ↔ y ∈ held s3 ∧ y ≠ kl := by
        intro y
        rw [foldEvs_append]
        simp only [foldEvs_cons, foldEvs_nil, mem_applyEv_released]
        rw [em'.2 y]
      constructor
      · intro y hy hay
        refine (hiff y).mpr ⟨at3.own y hy hay, ?_⟩
        intro e; rw [e, hkla] at hay; simp at hay
      · intro y hy hay hyto
        exact at3.other y ((hiff y).mp hy).1 hay hyto

/-! Non-vacuity: unit test `test_multi_key_overlap`: `A → [LEFTSHIFT, B]`, `C → D`; with A held,
pressing C releases B and LEFTSHIFT before D goes down (no stale Shift on D). -/
example :
    let L : Layout := [⟨[30], [42, 48], Repeat.normal, []⟩, ⟨[46], [32], Repeat.normal, []⟩]
    let x := Sys.run L Sys.init [Op.ev (Event.pressed 30)]
    x.V = [42, 48] ∧
    (step L x.s (Event.pressed 46)).2.events = [Event.released 48, Event.released 42, Event.pressed 32] := by
  decide

end TmVerif
