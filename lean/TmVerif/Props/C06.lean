/-
C06 — Releasing everything (or a tablet-mode reset) returns the mapper to fresh state.

"After all physical keys have been released, or after the release-all operation used on tablet-mode
changes, nothing is held on the virtual keyboard and the mapper answers every subsequent event
sequence exactly as a newly created mapper for the same layout would.  No memory of earlier chords,
absorbed modifiers or repeat triggers survives."

Quantifier: every layout (absorbing mappings included), every history h1 of key events and
release-all calls ending at rest or with a release-all, every continuation h2.
Method: `Eqv` (Proofs/Inert.lean) is a bisimulation with identical outputs; a state with no input key
is `Eqv` to the initial state whatever its leftover `mapped_absorbed_keys`, `absorbing_trigger`,
`repeating_trigger` are.
-/
import TmVerif.Proofs.Inert

namespace TmVerif

/-- a reachable state in which the mapper considers no key held is equivalent to the initial state -/
theorem rest_eqv_init {L : Layout} {x : Sys} (hx : Reachable L x) (hinp : x.s.inp = []) : Eqv x.s State.init := by
  have hr := hx.sinv.inv.rest hinp
  refine ⟨hinp, hr.2.1, hr.1, hr.2.2, ?_, ?_⟩
  · simp [live, hinp, State.init]
  · intro hl; simp [live, hinp] at hl

/-- C06 (at rest): if no key is physically held, nothing is held on the virtual keyboard and the
responses (events AND repeat field) to every continuation equal those of a fresh mapper -/
theorem C06_rest (L : Layout) (x : Sys) (hx : Reachable L x) (hP : x.P = []) (h2 : List Event) :
    x.V = [] ∧ (run L x.s h2).2 = (run L State.init h2).2 := by
  have hinp : x.s.inp = [] := by
    apply List.eq_nil_iff_forall_not_mem.mpr
    intro k hk; have := hx.sinv.inv.inpP k hk; rw [hP] at this; simp at this
  have hr := hx.sinv.inv.rest hinp
  refine ⟨?_, run_eqv L x.P hx.sinv.inv (rest_eqv_init hx hinp) h2⟩
  apply List.eq_nil_iff_forall_not_mem.mpr
  intro k hk
  have := (hx.sinv.vheld k).mp hk
  simp [held, hr.1, hr.2.2] at this

/-- C06 (release-all): right after `release_all`, whatever is still physically held, nothing is held
on the virtual keyboard and the mapper answers every continuation as a fresh one -/
theorem C06_relAll (L : Layout) (x : Sys) (hx : Reachable L x) (h2 : List Event) :
    (x.next L Op.relAll).V = [] ∧ (run L (x.next L Op.relAll).s h2).2 = (run L State.init h2).2 := by
  have hn := hx.next Op.relAll
  have ra := releaseAll_spec L x.P x.s hx.sinv.inv
  have hinp : (x.next L Op.relAll).s.inp = [] := ra.2.2.2
  have hr := ra.1.rest hinp
  refine ⟨?_, run_eqv L _ hn.sinv.inv (rest_eqv_init hn hinp) h2⟩
  apply List.eq_nil_iff_forall_not_mem.mpr
  intro k hk
  simpa [Sys.next, held, hr] using (hn.sinv.vheld k).mp hk

/-- history form: h1 any list of operations ending at rest or with a release-all -/
theorem C06 (L : Layout) (h1 : List Op) (h2 : List Event)
    (hend : (Sys.run L Sys.init h1).P = [] ∨ ∃ h1', h1 = h1' ++ [Op.relAll]) :
    (Sys.run L Sys.init h1).V = [] ∧
    (run L (Sys.run L Sys.init h1).s h2).2 = (run L State.init h2).2 := by
  rcases hend with hP | ⟨h1', rfl⟩
  · exact C06_rest L _ ⟨h1, rfl⟩ hP h2
  · have : Sys.run L Sys.init (h1' ++ [Op.relAll]) = (Sys.run L Sys.init h1').next L Op.relAll := by
      simp [Sys.run, List.foldl_append]
    rw [this]
    exact C06_relAll L _ ⟨h1', rfl⟩ h2

/-- the bisimulation itself, for reference: equivalent reachable states answer alike forever -/
theorem C06_bisim (L : Layout) (x : Sys) (hx : Reachable L x) (t : State) (he : Eqv x.s t) (h2 : List Event) :
    (run L x.s h2).2 = (run L t h2).2 :=
  run_eqv L x.P hx.sinv.inv he h2

/-! Non-vacuity: unit-test layout `absorbing_test_1` (`[LEFTSHIFT,A] → [LEFTSHIFT,A]` absorbing LEFTSHIFT):
after LEFTSHIFT↓ A↓ A↑ LEFTSHIFT↑ the mapper is at rest with a leftover absorbed key and trigger, and
answers LEFTSHIFT↓ A↓ exactly as a fresh mapper. -/
example :
    let L : Layout := [⟨[42, 30], [42, 30], Repeat.normal, [42]⟩]
    let x := Sys.run L Sys.init ([Event.pressed 42, Event.pressed 30, Event.released 30, Event.released 42].map Op.ev)
    x.P = [] ∧ x.s.absorbed = [42] ∧ x.s.absTrig = some 30 ∧
    (run L x.s [Event.pressed 42, Event.pressed 30]).2 = (run L State.init [Event.pressed 42, Event.pressed 30]).2 := by
  decide

/-! ### continuations that contain release-all calls (further tablet-mode changes) -/

/-- the response of the mapper to one operation: a `StepResult` for a key event; for `release_all` its
events (the loop sets the repeat timer idle on a tablet-mode change: recorded as `disabled`) -/
def opResp (L : Layout) (s : State) : Op → State × StepResult
  | Op.ev e => step L s e
  | Op.relAll => ((releaseAll L s).1, ⟨(releaseAll L s).2, RRepeat.disabled⟩)

def runOps (L : Layout) : State → List Op → State × List StepResult
  | s, [] => (s, [])
  | s, op :: ops => ((runOps L (opResp L s op).1 ops).1, (opResp L s op).2 :: (runOps L (opResp L s op).1 ops).2)

theorem releaseAllLoop_eqv (L : Layout) (P : List Key) (ks : List Key) {s t : State} (h : Inv L P s) (he : Eqv s t) :
    (releaseAllLoop L s ks).2 = (releaseAllLoop L t ks).2 ∧ Eqv (releaseAllLoop L s ks).1 (releaseAllLoop L t ks).1 := by
  induction ks generalizing s t with
  | nil => exact ⟨rfl, he⟩
  | cons k ks ih =>
    have heq : ∀ u : State, releaseAllLoop L u (k :: ks) =
        ((releaseAllLoop L (step L u (Event.released k)).1 ks).1,
         (step L u (Event.released k)).2.events ++ (releaseAllLoop L (step L u (Event.released k)).1 ks).2) :=
      fun _ => rfl
    rw [heq s, heq t]
    have q := step_eqv L h.i he (Event.released k)
    have hi : Inv L P (step L s (Event.released k)).1 :=
      (step_inv L P s (Event.released k) h).1.monoP
        (by intro x hx; simp only [applyEv, List.mem_filter] at hx; exact hx.1)
    have r := ih hi q.2
    exact ⟨by simp only; rw [q.1, r.1], r.2⟩

theorem opResp_eqv (L : Layout) (P : List Key) {s t : State} (h : Inv L P s) (he : Eqv s t) (op : Op) :
    (opResp L s op).2 = (opResp L t op).2 ∧ Eqv (opResp L s op).1 (opResp L t op).1 := by
  cases op with
  | ev e => exact step_eqv L h.i he e
  | relAll =>
    have r := releaseAllLoop_eqv L P s.inp h he
    simp only [opResp, releaseAll]
    rw [← he.inp]
    exact ⟨by rw [r.1], r.2⟩

theorem runOps_eqv (L : Layout) (x : Sys) (hx : Reachable L x) (t : State) (he : Eqv x.s t) (ops : List Op) :
    (runOps L x.s ops).2 = (runOps L t ops).2 := by
  induction ops generalizing x t with
  | nil => rfl
  | cons op ops ih =>
    simp only [runOps]
    have q := opResp_eqv L x.P hx.sinv.inv he op
    rw [q.1]
    congr 1
    have hn := hx.next op
    have hs : (x.next L op).s = (opResp L x.s op).1 := by cases op <;> rfl
    have := ih (x.next L op) hn (opResp L t op).1 (by rw [hs]; exact q.2)
    rw [hs] at this
    exact this

/-- C06 for continuations with further release-all calls: after rest or a release-all the mapper answers EVERY
sequence of key events and release-all calls exactly as a fresh mapper does -/
theorem C06_ops (L : Layout) (h1 : List Op) (h2 : List Op)
    (hend : (Sys.run L Sys.init h1).P = [] ∨ ∃ h1', h1 = h1' ++ [Op.relAll]) :
    (runOps L (Sys.run L Sys.init h1).s h2).2 = (runOps L State.init h2).2 := by
  have hx : Reachable L (Sys.run L Sys.init h1) := ⟨h1, rfl⟩
  apply runOps_eqv L _ hx
  rcases hend with hP | ⟨h1', rfl⟩
  · have hinp : (Sys.run L Sys.init h1).s.inp = [] := by
      apply List.eq_nil_iff_forall_not_mem.mpr
      intro k hk; have := hx.sinv.inv.inpP k hk; rw [hP] at this; simp at this
    exact rest_eqv_init hx hinp
  · have hr : Sys.run L Sys.init (h1' ++ [Op.relAll]) = (Sys.run L Sys.init h1').next L Op.relAll := by
      simp [Sys.run, List.foldl_append]
    have hx' : Reachable L (Sys.run L Sys.init h1') := ⟨h1', rfl⟩
    have ra := releaseAll_spec L _ _ hx'.sinv.inv
    have hinp : ((Sys.run L Sys.init h1').next L Op.relAll).s.inp = [] := ra.2.2.2
    rw [hr]
    exact rest_eqv_init (hx'.next Op.relAll) hinp

end TmVerif
