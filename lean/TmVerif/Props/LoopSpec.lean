/-
The specification automaton of C10 / C11 / C12 / C20 (`LoopMonitors.lean`) accepts every transcript
that the loop model itself produces (`Driver/LoopCmd.runAnnotated`: hidden `Instant::now()` answered
with the stamp of the previous answer, hidden `thread::sleep`), for EVERY tolerance (so also `tol = 0`).

Hypotheses:
* `Machine.init L = some x0`     — the layout is accepted by `Mapper::for_layout` (`Layout.wf`);
* the final machine is not `bad` — every answer of the script has the type its call expects
  (`bad` is absorbing, so this says that no ill-typed answer occurred); without it the automaton
  raises exactly "ill-typed-answer" (`spec_flags_only_ill_typed`).
No hypothesis on the clock stamps (they need not be monotone) and none about overflow: the model's
timeout arithmetic is on `Nat` and the automaton's `dueTimeout` is the same expression.  No hypothesis
on the repeat keys either: the automaton demands legality of the step / release-all batches only, of
a timer chord it demands shape and transience (`C11_transient`, which needs no `Nodup`); a Special
repeat that lists a key twice is accepted (`dup_repeat_key_is_accepted`).
-/
import TmVerif.Proofs.LoopSpecSim

namespace TmVerif
open TmVerif.LoopCmd (runAnnotated runLoop)

@[simp] theorem transcriptOf_nil (script : List (Resp × Nat)) : transcriptOf [] script = [] := by
  simp [transcriptOf]

@[simp] theorem transcriptOf_cons (c : Call) (cs : List Call) (r : Resp) (t : Nat) (rs : List (Resp × Nat)) :
    transcriptOf (c :: cs) ((r, t) :: rs) = ⟨c.toV, r, t⟩ :: transcriptOf cs rs := rfl

/-- a machine that is not blocked on a call stays as it is -/
theorem runAnnotated_stopped (L : Layout) (fuel : Nat) {x : Machine} (lastT : Nat) (script : List (Resp × Nat))
    (hp : pending x = none) : runAnnotated L fuel x lastT script = ([], x) := by
  cases fuel <;> simp [runAnnotated, hp]

/-- the loop's initial state (what `Machine.init` returns for a layout `Mapper::for_layout` accepts) -/
def Machine.start : Machine := ⟨⟨State.init, WorkingRepeat.idle, false, 0⟩, Ctl.start⟩

theorem Machine.init_of_wf (L : Layout) (hL : Layout.wf L = true) : Machine.init L = some Machine.start := by
  simp [Machine.init, forLayout, hL, Machine.start]

/-! ### the model's final status and the last transcript entry -/

/-- the status text `specVerdict` is given (`LoopCmd.showStatus`, with the error message in clear as
`LoopCmd.normStatus` makes it) -/
def statusOf (x : Machine) : String :=
  match x.c with
  | Ctl.done none => "ok"
  | Ctl.done (some msg) => "err:" ++ msg
  | Ctl.bad => "bad"
  | _ => "running"

/-- what an answer means for the loop's result: `some res` = the loop returns `res`, `none` = it goes on -/
def respStatus : Resp → Option (Option String)
  | Resp.err msg => some (some msg)
  | Resp.kbd Next.end_ => some none
  | Resp.tab Next.end_ => some none
  | _ => none

def statusRel (k : Option (Option String)) (x : Machine) : Prop :=
  match k with
  | some res => x.c = Ctl.done res
  | none => x.c.isDone = false

/-- the status text of a result -/
def statusText : Option (Option String) → String
  | some none => "ok"
  | some (some msg) => "err:" ++ msg
  | none => "running"

theorem statusOf_of_rel {k : Option (Option String)} {x : Machine} (h : statusRel k x) (hb : x.c ≠ Ctl.bad) :
    statusOf x = statusText k := by
  obtain ⟨v, c⟩ := x
  cases k with
  | some res => cases h; cases res <;> rfl
  | none => cases c <;> first | rfl | exact absurd rfl hb | cases h

@[simp ↓] theorem toPollTop_isDone (v : LoopVars) : (toPollTop v).c.isDone = false := by
  unfold toPollTop; cases v.rep <;> rfl

@[simp ↓] theorem drain_isDone (v : LoopVars) (devs : List Dev) : (drain v devs).c.isDone = false := by
  cases devs with
  | nil => exact toPollTop_isDone v
  | cons d rest => cases d <;> rfl

@[simp ↓] theorem afterStep_isDone (v : LoopVars) (rest : List Dev) (rr : RRepeat) : (afterStep v rest rr).c.isDone = false := by
  cases rr <;> rfl

/-- the loop returns exactly on a failure (with that error) and on `End` (with `Ok`); no arm ends in `bad` -/
theorem Adv.status {L : Layout} {x y : Machine} {r : Resp} (ha : Adv L x r y) :
    statusRel (respStatus r) y ∧ y.c ≠ Ctl.bad := by
  cases ha <;> simp [statusRel, respStatus, Ctl.isDone]

/-- a well-typed answer never leads to `bad` -/
theorem advance_ne_bad_of_wellTyped (L : Layout) (x : Machine) (r : Resp) (hw : wellTyped x.c r = true) :
    (advance L x r).c ≠ Ctl.bad := by
  rcases advance_arm L x r with ha | ⟨_, hf⟩
  · exact ha.status.2
  · rw [hw] at hf; cases hf

/-- the result the last transcript entry announces (`k` if there is no entry) -/
def lastStatus (k : Option (Option String)) (tr : List Entry) : Option (Option String) :=
  match tr.getLast? with
  | some e => respStatus e.resp
  | none => k

theorem lastStatus_cons (k : Option (Option String)) (e : Entry) (tr : List Entry) :
    lastStatus k (e :: tr) = lastStatus (respStatus e.resp) tr := by
  cases tr with
  | nil => simp [lastStatus]
  | cons e' tr' =>
    simp only [lastStatus, List.getLast?_cons_cons]
    cases h : (e' :: tr').getLast? with
    | none => simp at h
    | some l => rfl

theorem statusRel_of_pending {k : Option (Option String)} {x : Machine} {c : Call} (h : statusRel k x)
    (hp : pending x = some c) : k = none := by
  cases k with
  | none => rfl
  | some res =>
    simp only [statusRel] at h
    obtain ⟨v, ct⟩ := x
    simp only at h; subst h
    simp [pending] at hp

/-- the end-of-transcript checks of `specVerdict` pass on the status text the last entry announces -/
theorem specVerdict_of_status (L : Layout) (tol : Nat) (tr : List Entry) :
    specVerdict L tol tr (statusText (lastStatus none tr)) = (specRun L tol Spec.init false tr).viol := by
  unfold specVerdict lastStatus
  cases tr.getLast? with
  | none => simp [statusText]
  | some e =>
    obtain ⟨c, r, ts⟩ := e
    cases r with
    | kbd n => cases n <;> simp [respStatus, statusText]
    | tab n => cases n <;> simp [respStatus, statusText]
    | _ => simp [respStatus, statusText]

/-! ### an ill-typed answer raises exactly "ill-typed-answer" -/

theorem adjustBase_viol (pb : Bool) (c : VCall) (r : Resp) (ts : Nat) (x2 : Spec) :
    (adjustBase pb c r ts x2).viol = x2.viol := by
  unfold adjustBase; split <;> rfl

/-- an ill-typed answer to a visible call: the automaton says so -/
theorem applyResp_illTyped (L : Layout) (S : Spec) (x : Machine) (c : Call) (hp : pending x = some c)
    (hv : c.isVisible = true) (r : Resp) (t : Nat) (hw : wellTyped x.c r = false) :
    applyResp L S c.toV r t = ({ S with lastTs := t } : Spec).flag "ill-typed-answer" := by
  obtain ⟨v, ct⟩ := x
  cases ct <;> simp only [pending, Option.some.injEq, reduceCtorEq] at hp <;> subst hp <;>
    simp only [Call.isVisible, Bool.false_eq_true] at hv <;>
    cases r <;> simp [wellTyped, Ctl.isDriverCall] at hw <;>
    first
      | rfl
      | (rename_i pr; cases pr <;> rfl)
      | (rename_i n; cases n <;> rfl)

/-- an ill-typed answer: the automaton raises exactly "ill-typed-answer" at that entry -/
theorem SimR.visible_bad {L : Layout} {x : Machine} {lastT : Nat} {S : Spec} {pb : Bool}
    (h : SimR L x lastT S pb) (tol : Nat) (c : Call) (hp : pending x = some c) (hv : c.isVisible = true)
    (r : Resp) (t : Nat) (hw : wellTyped x.c r = false) :
    (specStep L tol S pb ⟨c.toV, r, t⟩).1.viol = ["ill-typed-answer"] := by
  simp only [specStep, adjustBase_viol]
  rw [h.checkCall tol c hp hv, applyResp_illTyped L _ x c hp hv r t hw]
  have : (S.afterCall c).viol = [] := by rw [Spec.afterCall_viol]; exact h.viol
  simp [Spec.flag, this]

/-! ### the automaton along a run of the model -/

theorem Call.isVisible_of_ne {c : Call} (h1 : c = Call.now → False) (h2 : ∀ ms, c = Call.sleep ms → False) :
    c.isVisible = true := by
  cases c <;> first | rfl | exact absurd rfl h1 | exact absurd rfl (h2 _)

/-- ONE induction along `runAnnotated`, from any related pair of states: the automaton run over the visible
transcript raises "ill-typed-answer" if the model ends in `bad` and nothing otherwise, and then the
model's final state is what the last transcript entry announces -/
theorem runAnnotated_sim {L : Layout} (tol fuel : Nat) (x : Machine) (lastT : Nat) (script : List (Resp × Nat))
    (S : Spec) (pb : Bool) (k : Option (Option String))
    (h : Sim L x lastT S pb) (hk : statusRel k x) (hx : x.c ≠ Ctl.bad) :
    (specRun L tol S pb (transcriptOf (runAnnotated L fuel x lastT script).1 script)).viol =
      (if (runAnnotated L fuel x lastT script).2.c = Ctl.bad then ["ill-typed-answer"] else []) ∧
    ((runAnnotated L fuel x lastT script).2.c ≠ Ctl.bad →
      statusRel (lastStatus k (transcriptOf (runAnnotated L fuel x lastT script).1 script))
        (runAnnotated L fuel x lastT script).2) := by
  fun_induction runAnnotated L fuel x lastT script generalizing S pb k with
  | case3 fuel x lastT script hp ih =>
    -- hidden `Instant::now()`: the automaton does not move
    obtain rfl := statusRel_of_pending hk hp
    have hn := (h.2 hk).now hp
    exact ih S pb none ⟨h.1, fun _ => hn.2⟩ hn.1.status.1 hn.1.status.2
  | case4 fuel x lastT script ms hp ih =>
    -- hidden `thread::sleep`
    obtain rfl := statusRel_of_pending hk hp
    have hn := (h.2 hk).sleep ms hp
    exact ih S pb none ⟨h.1, fun _ => hn.2⟩ hn.1.status.1 hn.1.status.2
  | case6 fuel x lastT c hn1 hn2 hp r t rest cs x' hrec ih =>
    obtain rfl := statusRel_of_pending hk hp
    have hv := Call.isVisible_of_ne hn1 hn2
    simp only [transcriptOf_cons, specRun_cons, lastStatus_cons]
    rw [hrec] at ih
    rcases advance_arm L x r with ha | ⟨hb, hw⟩
    · exact ih _ _ _ ((h.2 hk).visible tol c hp hv r t ha.status.2) ha.status.1 ha.status.2
    · rw [hb, runAnnotated_stopped L fuel t rest rfl] at hrec
      cases hrec
      simp [specRun_nil, (h.2 hk).visible_bad tol c hp hv r t hw]
  | _ => simp [specRun_nil, h.1, hx, lastStatus, hk]

/-- **Without the typing hypothesis**: the only tag the automaton can raise on a transcript of the
model is "ill-typed-answer", and it raises it exactly when the model ended in `bad`. -/
theorem spec_flags_only_ill_typed (L : Layout) (x0 : Machine) (h0 : Machine.init L = some x0)
    (tol fuel : Nat) (script : List (Resp × Nat)) :
    (specRun L tol Spec.init false (transcriptOf (runAnnotated L fuel x0 0 script).1 script)).viol =
      if (runAnnotated L fuel x0 0 script).2.c = Ctl.bad then ["ill-typed-answer"] else [] := by
  have hs := SimR.init h0
  cases Machine.init_eq h0
  exact (runAnnotated_sim tol fuel _ 0 script _ _ none ⟨rfl, fun _ => hs⟩ rfl (by simp)).1

/-- **The specification automaton accepts every transcript of the loop model**, for every tolerance:
run the model from its initial state against any annotated script; if no answer was ill-typed
(the final machine is not `bad`), the automaton run over the visible transcript raises no tag. -/
theorem spec_accepts_model (L : Layout) (x0 : Machine) (h0 : Machine.init L = some x0)
    (tol fuel : Nat) (script : List (Resp × Nat))
    (hty : (runAnnotated L fuel x0 0 script).2.c ≠ Ctl.bad) :
    (specRun L tol Spec.init false (transcriptOf (runAnnotated L fuel x0 0 script).1 script)).viol = [] := by
  rw [spec_flags_only_ill_typed L x0 h0, if_neg hty]

/-- the same, with the hypotheses spelled out on the layout: `Layout.wf` (what `make_hashed_layout`
insists on) -/
theorem spec_accepts_model_wf (L : Layout) (hL : Layout.wf L = true)
    (tol fuel : Nat) (script : List (Resp × Nat))
    (hty : (runAnnotated L fuel Machine.start 0 script).2.c ≠ Ctl.bad) :
    (specRun L tol Spec.init false (transcriptOf (runAnnotated L fuel Machine.start 0 script).1 script)).viol = [] :=
  spec_accepts_model L Machine.start (Machine.init_of_wf L hL) tol fuel script hty

/-- **Verdict form**: `specVerdict` — the automaton plus the end-of-transcript checks of C20 / C10 —
returns no tag on the model's transcript together with the model's own final status. -/
theorem spec_verdict_model (L : Layout) (x0 : Machine) (h0 : Machine.init L = some x0)
    (tol fuel : Nat) (script : List (Resp × Nat))
    (hty : (runAnnotated L fuel x0 0 script).2.c ≠ Ctl.bad) :
    specVerdict L tol (transcriptOf (runAnnotated L fuel x0 0 script).1 script)
      (statusOf (runAnnotated L fuel x0 0 script).2) = [] := by
  have hs := SimR.init h0
  have hv := spec_accepts_model L x0 h0 tol fuel script hty
  cases Machine.init_eq h0
  have hst := (runAnnotated_sim tol fuel _ 0 script _ _ none ⟨rfl, fun _ => hs⟩ rfl (by simp)).2 hty
  rw [statusOf_of_rel hst hty, specVerdict_of_status, hv]

/-! ### the driver's own entry points (`LoopCmd.runLoop`, `LoopCmd.zipEntries`) -/

/-- `LOOP`'s run (`runLoop`: fuel `3·|script| + 6`) followed by `LOOPMON`'s verdict on the model's own
calls and status: no tag, for every tolerance -/
theorem spec_verdict_runLoop (L : Layout) (tol : Nat) (script : List (Resp × Nat))
    (calls : List Call) (x' : Machine) (hrun : runLoop L script = some (calls, x')) (hty : x'.c ≠ Ctl.bad) :
    specVerdict L tol (transcriptOf calls script) (statusOf x') = [] := by
  unfold runLoop at hrun
  cases h0 : Machine.init L with
  | none => simp [h0] at hrun
  | some x0 =>
    simp only [h0, Option.map_some, Option.some.injEq] at hrun
    have := spec_verdict_model L x0 h0 tol (3 * script.length + 6) script (by rw [hrun]; exact hty)
    rw [hrun] at this
    exact this

/-- the model never makes more visible calls than the script has answers -/
theorem runAnnotated_length (L : Layout) :
    ∀ (fuel : Nat) (x : Machine) (lastT : Nat) (script : List (Resp × Nat)),
      (runAnnotated L fuel x lastT script).1.length ≤ script.length := by
  intro fuel x lastT script
  fun_induction runAnnotated L fuel x lastT script with
  | case3 _ _ _ _ _ ih | case4 _ _ _ _ _ _ ih => exact ih
  | case6 _ _ _ _ _ _ _ _ _ _ _ _ hrec ih => rw [hrec] at ih; exact Nat.succ_le_succ ih
  | _ => simp

/-- `transcriptOf` is `LOOPMON`'s `zipEntries` of the visible calls with the answers consumed -/
theorem zipEntries_transcriptOf (calls : List Call) (script : List (Resp × Nat)) (hlen : calls.length ≤ script.length) :
    LoopCmd.zipEntries (calls.map Call.toV) (script.take calls.length) = some (transcriptOf calls script) := by
  induction calls generalizing script with
  | nil => simp [LoopCmd.zipEntries]
  | cons c cs ih =>
    cases script with
    | nil => simp at hlen
    | cons rt rest =>
      obtain ⟨r, t⟩ := rt
      simp only [List.length_cons, Nat.add_le_add_iff_right] at hlen
      simp [LoopCmd.zipEntries, ih rest hlen]

/-! ### Non-vacuity, and the finding -/

/-- Non-vacuity: the D2 witness layout of C11 (`B → B`, Special [LEFTCTRL, C], 130 ms, 30 ms): a step
with output and a repeat request, the relative deadline completed by the send's stamp, two chords on
schedule; the automaton accepts with tolerance 0. -/
example :
    let L : Layout := [⟨[48], [48], Repeat.special [29, 46] 130 30, []⟩]
    let script : List (Resp × Nat) :=
      [(Resp.unit, 0), (Resp.poll (PollRes.deviceEvent [Dev.keyboard]), 500), (Resp.kbd (Next.one (Event.pressed 48)), 700),
       (Resp.unit, 1000), (Resp.kbd Next.busy, 5000), (Resp.poll PollRes.timedOut, 130002000), (Resp.unit, 130002500),
       (Resp.poll PollRes.timedOut, 160001000), (Resp.unit, 160001700)]
    (runLoop L script).map (fun p => (p.1, statusOf p.2, specVerdict L 0 (transcriptOf p.1 script) (statusOf p.2))) =
      some ([Call.registerPoll, Call.poll none, Call.nextKeyboard, Call.send SendKind.step [Event.pressed 48, Event.released 48],
             Call.nextKeyboard, Call.poll (some 129996000),
             Call.send SendKind.chord [Event.pressed 29, Event.pressed 46, Event.released 46, Event.released 29],
             Call.poll (some 29998500),
             Call.send SendKind.chord [Event.pressed 29, Event.pressed 46, Event.released 46, Event.released 29]],
            "running", []) := by
  decide

/-- every Special repeat of the layout lists each repeat key once (NOT a hypothesis of the theorems above;
only used to say what the example below is about) -/
def Layout.repNodup (L : Layout) : Bool :=
  L.all fun m => match m.rep with
    | Repeat.special keys _ _ => decide keys.Nodup
    | _ => true

/-- A layout that `Mapper::for_layout` accepts (`Layout.wf`) whose Special repeat lists a key twice.  The
loop model's chord is `P46 P46 R46 R46` (the Rust filters `is_output_held` against the mapper state,
which the chord does not change, so the second press is not filtered).  C11 fixes the chord's shape
and its transience only (`C11_shape`, `C11_transient` need no `Nodup`), so the automaton accepts the
model's transcript.  (An earlier version of the automaton demanded C19-style legality of every send and
raised "C11/illegal-event-in-send" here.) -/
theorem dup_repeat_key_is_accepted :
    let L : Layout := [⟨[48], [48], Repeat.special [46, 46] 130 30, []⟩]
    let script : List (Resp × Nat) :=
      [(Resp.unit, 0), (Resp.poll (PollRes.deviceEvent [Dev.keyboard]), 10), (Resp.kbd (Next.one (Event.pressed 48)), 20),
       (Resp.unit, 30), (Resp.kbd Next.busy, 40), (Resp.poll PollRes.timedOut, 130000040), (Resp.unit, 130000050)]
    Layout.wf L = true ∧ L.repNodup = false ∧
    (runLoop L script).map (fun p => (p.1, statusOf p.2, specVerdict L 0 (transcriptOf p.1 script) (statusOf p.2))) =
      some ([Call.registerPoll, Call.poll none, Call.nextKeyboard, Call.send SendKind.step [Event.pressed 48, Event.released 48],
             Call.nextKeyboard, Call.poll (some 129999990),
             Call.send SendKind.chord [Event.pressed 46, Event.pressed 46, Event.released 46, Event.released 46]],
            "running", []) := by
  decide

end TmVerif
