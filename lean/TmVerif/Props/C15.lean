/-
C15 — The layout saved for the systemd service reloads as the same layout.

"Writing any converted layout in the JSON form that add_systemd_service saves to
/etc/totalmapper.json (serde_json::to_writer_pretty of keys::Layout) and loading that file the way
the service does (load_layout_from_file = serde_json::from_reader → parse_layout_from_json →
convert) yields exactly the same list of mappings, in the same order, with the same triggers,
outputs, repeat settings and absorbing lists.  Every key name the tool can write is read back as the
same key, for all key codes (484)."

Model: `serialize` (`Model/Load.lean`) = `serde_json::to_value(&keys::Layout)` by the serde derives
of `src/keys.rs` / `src/key_codes.rs`; `load` = parse + convert on a `serde_json::Value`.
Outside the model (checked by suite `load`, part d, on every accepted layout): that
`to_writer_pretty` followed by `from_reader` reproduces the `Value` (serde_json's own text round
trip), and that `serialize` is what `serde_json::to_value` produces.

`Saveable` (`Proofs/LoadWellFormed.lean`) states exactly what the round trip needs of a basic layout;
`load_saveable` shows that every layout the loader can produce has it, so the theorem covers every
layout `add_systemd_service` can be handed (`C15_loaded`).
-/
import TmVerif.Proofs.LoadSave
import TmVerif.Props.C14

namespace TmVerif
open TmVerif.Tables

/-- C15, key names: for EVERY row `(discriminant, variant name, serde name)` of the key table
regenerated from the real enum (484 rows): `parse_key_code` reads the serde name back as that key,
the name does not start with `@` (it cannot be taken for an alias), and the key is written under
that name.  The table facts behind it are checked by `decide +kernel` (`Proofs/LoadKeys.lean`). -/
theorem C15_keys :
    (∀ r ∈ keyTable, parseKeyCodeN r.2.2 = some r.1 ∧ r.2.2.head? ≠ some 64 ∧ serdeNameN r.1 = some r.2.2) ∧
    (keyTable.map (·.2.2)).Nodup := by
  have hrow : ∀ r ∈ keyTable, parseKeyCodeN r.2.2 = some r.1 ∧ r.2.2.head? ≠ some 64 ∧ serdeNameN r.1 = some r.2.2 :=
    fun r hr => have h := keyTable_row hr; ⟨h.1, h.2.2.1, h.2.1⟩
  refine ⟨hrow, ?_⟩
  -- serde names are pairwise distinct because their images under `parse_key_code`, the
  -- discriminants, are
  have hdisc : ((keyTable.map (·.1)).map some).Nodup :=
    List.Pairwise.map some (fun _ _ h h' => Nat.ne_of_lt h (Option.some.inj h')) (pairwise_of_ascending keyTable_ascending)
  generalize keyTable = T at hrow hdisc ⊢
  have himg : (T.map (·.2.2)).map parseKeyCodeN = (T.map (·.1)).map some := by
    rw [List.map_map, List.map_map]
    exact List.map_congr_left fun r hr => (hrow r hr).1
  rw [← himg] at hdisc
  exact List.Pairwise.of_map parseKeyCodeN (fun _ _ h h' => h (congrArg parseKeyCodeN h')) hdisc

/-- C15, key names, in terms of the functions the loader and the writer use: a key that can be
written (it has a serde name) is read back as the same key -/
theorem C15_key_roundtrip {k : Key} {name : List Char} (h : serdeName k = some name) :
    parseKeyCode name = some k ∧ Parse.startsWithAt name = false := by
  have hk : isKnownKey k = true := by
    simp only [serdeName, Option.map_eq_some_iff] at h
    obtain ⟨s, hs, _⟩ := h
    simp [isKnownKey, hs]
  have := known_roundtrip hk
  rw [serdeName_of_known hk] at h
  simp at h; subst h; exact this

/-- C15: a saveable layout is written as some JSON value, and loading that value gives exactly the
same layout (same mappings, same order, same triggers, outputs, repeats, absorbing lists).
Hypothesis `Saveable L` (see `Mapping.saveable`): well-formed triggers/outputs, all keys among the
484 key codes, absorbed keys among the trigger's modifiers, `i32` delays — each is needed:
see the examples below. -/
theorem C15 {L : Layout} (h : Saveable L = true) :
    ∃ j, serialize L = some j ∧ load j = Outcome.ok L := by
  obtain ⟨j, hj, hp⟩ := serialize_parse h
  refine ⟨j, hj, ?_⟩
  simp [load, hp, Convert.convert_eq_expand, Expand.expand_toFancy (Saveable.wf h)]

/-- `Saveable` is not a restriction in practice: every layout the loader produces has it
(`load_saveable`, `Proofs/Load.lean`).  So: whatever layout file the user gave to
`add_systemd_service`, the converted layout is written as a file that loads as exactly the same
layout. -/
theorem C15_loaded {j : Json} {L : Layout} (h : load j = Outcome.ok L) :
    ∃ j', serialize L = some j' ∧ load j' = Outcome.ok L := C15 (load_saveable h)

/-! ## the hypotheses are met by a concrete instance, and each is needed -/

/-- the easy-symbols fragment of `Props/C14.lean` loads (to 19 mappings), so its saved form reloads -/
example : ∃ L j', load easySymbolsFragment = Outcome.ok L ∧ L.length = 19 ∧
    serialize L = some j' ∧ load j' = Outcome.ok L := by
  have hlen : (match load easySymbolsFragment with | Outcome.ok L => L.length | _ => 0) = 19 := by decide +kernel
  cases h : load easySymbolsFragment with
  | ok L =>
    obtain ⟨j', h1, h2⟩ := C15_loaded h
    rw [h] at hlen
    exact ⟨L, j', rfl, hlen, h1, h2⟩
  | error => rw [h] at hlen; cases hlen
  | panic => rw [h] at hlen; cases hlen


/-- the first four mappings of the converted easy-symbols fragment of `Props/C14.lean`, one with a
special repeat and an absorbing list added -/
def c15Example : Layout := [
  ⟨[58], [], Repeat.normal, []⟩,
  ⟨[58, 17], [42, 26], Repeat.normal, []⟩,
  ⟨[42, 58, 18], [42, 27], Repeat.special [29, 194] 180 (-30), [42, 58]⟩,
  ⟨[100, 19], [42, 6], Repeat.disabled, []⟩]

example : Saveable c15Example = true := by decide +kernel
example : ∃ j, serialize c15Example = some j ∧ load j = Outcome.ok c15Example := C15 (by decide +kernel)

/-- a key number that is no key code cannot be written -/
example : serialize [⟨[0], [], Repeat.normal, []⟩] = none := by decide +kernel
/-- an absorbed key that is the trigger's FINAL key is rejected on reload -/
example : (serialize [⟨[42, 30], [], Repeat.normal, [30]⟩]).map load = some Outcome.error := by decide +kernel
/-- an empty trigger is rejected on reload -/
example : (serialize [⟨[], [30], Repeat.normal, []⟩]).map load = some Outcome.error := by decide +kernel
/-- a delay outside `i32` (impossible in Rust) would come back wrapped -/
example : (serialize [⟨[30], [], Repeat.special [] 4294967301 0, []⟩]).map load =
    some (Outcome.ok [⟨[30], [], Repeat.special [] 5 0, []⟩]) := by decide +kernel

end TmVerif
