/-
C02 — Every key held on the output is justified by what is held on the input.

(a) each key held on the virtual keyboard is physically held or is an output key of a mapping all
    of whose trigger keys are physically held;
(b) a key that has a single-key mapping and occurs in no mapping's output never appears on the
    virtual keyboard (and is never pressed there);
(c) a physical key release never causes a virtual key press;
(d) while a mapping is in effect its trigger keys are consumed  — see `C02d` below.

Quantifier: every layout, every history, at every prefix (every reachable state and every step).
-/
import TmVerif.Proofs.Fired

namespace TmVerif

/-- (a) with "the trigger is not empty", so that nothing held on the input means nothing held on the output (C01) -/
theorem C02a_strong (L : Layout) (x : Sys) (hx : Reachable L x) (k : Key) (hk : k ∈ x.V) :
    k ∈ x.P ∨ ∃ m, m ∈ L ∧ k ∈ m.to ∧ m.frm ≠ [] ∧ ∀ t, t ∈ m.frm → t ∈ x.P := by
  have h := hx.sinv
  rcases (mem_held x.s k).mp ((h.vheld k).mp hk) with h1 | h1
  · exact Or.inl (h.inv.inpP k (h.inv.i.passInp k h1))
  · rcases h.inv.i.mappedAct k h1 with h2 | ⟨m, hm, hkm⟩
    · simp at h2
    · exact Or.inr ⟨m, h.inv.actL m hm, hkm, h.inv.actNe m hm,
        fun t ht => h.inv.inpP t (h.inv.i.actInp m hm t ht)⟩

/-- (a) at every reachable state -/
theorem C02a (L : Layout) (x : Sys) (hx : Reachable L x) (k : Key) (hk : k ∈ x.V) :
    k ∈ x.P ∨ ∃ m, m ∈ L ∧ k ∈ m.to ∧ ∀ t, t ∈ m.frm → t ∈ x.P :=
  (C02a_strong L x hx k hk).imp_right fun ⟨m, hm, hkm, _, hall⟩ => ⟨m, hm, hkm, hall⟩

/-- (b) at every reachable state no hidden key is held -/
theorem C02b_held (L : Layout) (x : Sys) (hx : Reachable L x) (k : Key) (hk : k ∈ x.V) :
    hidden L k = false :=
  hx.sinv.inv.held_not_hidden k ((hx.sinv.vheld k).mp hk)

/-- (c) a release (accepted or not) emits releases only -/
theorem C02c (L : Layout) (x : Sys) (hx : Reachable L x) (k : Key) (e : Event)
    (he : e ∈ (step L x.s (Event.released k)).2.events) : e.isRelease = true := by
  rcases (step_released L x.s k).2 with h | h <;> rw [h] at he
  · cases he
  · exact (releaseKey_spec k hx.sinv.inv.i).2.allRel e he

/-- (b) no step ever presses a hidden key -/
theorem C02b_pressed (L : Layout) (x : Sys) (hx : Reachable L x) (e : Event) (k : Key)
    (hk : Event.pressed k ∈ (step L x.s e).2.events) : hidden L k = false :=
  (step_inv L x.P x.s e hx.sinv.inv).2.2 k hk

/-! monitor forms -/

theorem C02a_monitor (L : Layout) (x : Sys) (hx : Reachable L x) (e : Event) :
    monC02a (x.obs L e) = true := by
  have hn := hx.next (Op.ev e)
  simp only [monC02a, List.all_eq_true, Bool.or_eq_true, List.any_eq_true, Bool.and_eq_true]
  intro k hk
  have := C02a L _ hn k hk
  rcases this with h1 | ⟨m, hm, hkm, hsat⟩
  · left; simpa [Obs.P', Sys.obs, Sys.next] using h1
  · right
    refine ⟨m, hm, by simpa using hkm, ?_⟩
    simp only [satisfiedBy, List.all_eq_true]
    intro t ht
    simpa [Obs.P', Sys.obs, Sys.next] using hsat t ht

theorem C02b_monitor (L : Layout) (x : Sys) (hx : Reachable L x) (e : Event) :
    monC02b (x.obs L e) = true := by
  have hn := hx.next (Op.ev e)
  simp only [monC02b, Bool.and_eq_true, List.all_eq_true]
  refine ⟨?_, ?_⟩
  · intro k hk
    have := C02b_held L _ hn k hk
    simp [Sys.obs, this]
  · intro ev hev
    cases ev with
    | released _ => rfl
    | pressed k =>
      have := C02b_pressed L x hx e k hev
      simp [Sys.obs, this]

theorem C02c_monitor (L : Layout) (x : Sys) (hx : Reachable L x) (e : Event) :
    monC02c (x.obs L e) = true := by
  cases e with
  | pressed _ => rfl
  | released k =>
    simp only [monC02c, Sys.obs, List.all_eq_true]
    exact fun ev hev => C02c L x hx k ev hev

/-! Non-vacuity: CAPSLOCK has a single-key mapping to nothing and occurs in no output (hidden); it is
held physically while a chord fires, and never reaches the virtual keyboard. -/
example :
    let L : Layout := [⟨[58], [], Repeat.normal, []⟩, ⟨[58, 36], [105], Repeat.normal, []⟩]
    let ops := [Op.ev (Event.pressed 58), Op.ev (Event.pressed 36)]
    hidden L 58 = true ∧ (Sys.run L Sys.init ops).P = [58, 36] ∧ (Sys.run L Sys.init ops).V = [105] := by
  decide

end TmVerif
