/-
C11 — Timer repeats fire on schedule, stop on any key change, and are transient.

"After a Special-repeat mapping fires, the loop waits for at most delay_ms and then writes the repeat
chord (those of its keys that are not already held, pressed in listed order and released in reverse)
once per interval_ms without drift, for as long as no further key event or tablet-mode change
arrives; no repeat chord is written at any other time.  Each chord leaves the set of keys held on
the virtual keyboard exactly as it was before the chord."

Time is a parameter of the model: `Instant::now()` is a call answered by the environment with an
arbitrary natural number of nanoseconds.  Stated for non-negative delay / interval (for a negative
`i32` the Rust computes `x as u64`, which `asU64` models, but the property does not speak about it).
-/
import TmVerif.Props.C12
import TmVerif.Props.C20

namespace TmVerif

/-- pressing a duplicate-free list of keys none of which is held -/
theorem Emits.presses {V V' : List Key} {ks : List Key} (hnd : ks.Nodup) (hsub : ∀ k, k ∈ ks → k ∉ V)
    (h : ∀ x, x ∈ V' ↔ x ∈ V ∨ x ∈ ks) : Emits V (ks.map Event.pressed) V' := by
  induction ks generalizing V with
  | nil => exact Emits.nil (by simpa using fun x => (h x).symm)
  | cons k ks ih =>
    rw [List.map_cons, ← List.singleton_append]
    have hnd' := List.nodup_cons.mp hnd
    apply Emits.trans (V1 := V ++ [k])
    · exact Emits.press (hsub k (by simp)) (by intro x; simp)
    · apply ih hnd'.2
      · intro x hx
        have : x ≠ k := fun e => hnd'.1 (e ▸ hx)
        simp [hsub x (by simp [hx]), this]
      · intro x; rw [h x]; simp [or_assoc]

/-- C11 (shape): the chord is the repeat keys that are not held on the output, pressed in listed
order, then the same keys released in reverse order -/
theorem C11_shape (s : State) (keys : List Key) :
    chordOf s keys =
      (keys.filter (fun k => !isOutputHeld s k)).map Event.pressed ++
      ((keys.filter (fun k => !isOutputHeld s k)).reverse).map Event.released := by
  simp [chordOf, List.filter_reverse]

theorem isOutputHeld_iff (s : State) (k : Key) : isOutputHeld s k = true ↔ k ∈ held s := by
  simp [isOutputHeld, held]

/-- C11 (transient): whatever the repeat keys are (duplicates, keys that are held), folding the chord
into the set of keys held on the virtual keyboard gives that set back -/
theorem C11_transient (s : State) (keys : List Key) (k : Key) :
    k ∈ foldEvs (held s) (chordOf s keys) ↔ k ∈ held s := by
  rw [C11_shape, foldEvs_append]
  generalize hK : keys.filter (fun k => !isOutputHeld s k) = K
  have hKV : ∀ x, x ∈ K → x ∉ held s := by
    intro x hx; rw [← hK] at hx
    simp only [List.mem_filter, Bool.not_eq_eq_eq_not, Bool.not_true] at hx
    intro hh; have := (isOutputHeld_iff s x).mpr hh; simp [this] at hx
  -- presses add exactly K, releases remove exactly K
  have h1 : ∀ (l : List Key) (V : List Key) (x : Key), x ∈ foldEvs V (l.map Event.pressed) ↔ x ∈ V ∨ x ∈ l := by
    intro l; induction l with
    | nil => intro V x; simp
    | cons a l ih => intro V x; simp only [List.map_cons, foldEvs_cons]; rw [ih]; simp [or_assoc]
  have h2 : ∀ (l : List Key) (V : List Key) (x : Key), x ∈ foldEvs V (l.map Event.released) ↔ x ∈ V ∧ x ∉ l := by
    intro l; induction l with
    | nil => intro V x; simp
    | cons a l ih => intro V x; simp only [List.map_cons, foldEvs_cons]; rw [ih]; simp [and_assoc]
  rw [h2, h1]
  constructor
  · rintro ⟨h3 | h3, h4⟩
    · exact h3
    · exact absurd (by simpa using h3) h4
  · intro h3
    exact ⟨Or.inl h3, by simp only [List.mem_reverse]; exact fun h4 => hKV k h4 h3⟩

/-- C11 (transient, legality): with duplicate-free repeat keys the chord is moreover a legal event
sequence against what is held (no press of a held key, no release of a key that is up) -/
theorem C11_legal (s : State) (keys : List Key) (hnd : keys.Nodup) :
    Emits (held s) (chordOf s keys) (held s) := by
  rw [C11_shape]
  generalize hK : keys.filter (fun k => !isOutputHeld s k) = K
  have hKnd : K.Nodup := by rw [← hK]; exact hnd.filter _
  have hKV : ∀ x, x ∈ K → x ∉ held s := by
    intro x hx; rw [← hK] at hx
    simp only [List.mem_filter, Bool.not_eq_eq_eq_not, Bool.not_true] at hx
    intro hh; have := (isOutputHeld_iff s x).mpr hh; simp [this] at hx
  apply Emits.trans (V1 := held s ++ K)
  · exact Emits.presses hKnd hKV (by intro x; simp)
  · apply Emits.releases (nodup_reverse hKnd)
    · intro k hk; simp at hk; simp [hk]
    · intro x; simp only [List.mem_append, List.mem_reverse]
      constructor
      · intro h3; exact ⟨Or.inl h3, fun h4 => hKV x h4 h3⟩
      · rintro ⟨h3 | h3, h4⟩
        · exact h3
        · exact absurd h3 h4

/-- C11 (only): the loop is about to write a chord ONLY as the reaction to a time-out of `poll` while
a repeat request is pending and tablet mode is off — and then the chord is `chordOf` of the
request's keys -/
theorem C11_only (L : Layout) (x : Machine) (r : Resp) (evs : List Event)
    (h : (advance L x r).c = Ctl.sendChord evs) :
    (∃ t, x.c = Ctl.polling t) ∧ r = Resp.poll PollRes.timedOut ∧ x.v.inTablet = false ∧
    ∃ keys nw iv, x.v.rep = WorkingRepeat.repeating keys nw iv ∧ evs = chordOf x.v.m keys ∧ evs ≠ [] := by
  have ha := Adv.of_ne_bad (L := L) (x := x) (r := r) (by rw [h]; simp)
  generalize advance L x r = y at h ha
  -- `sendChord` is the one control point blocked on a send whose payload is not owed to the mapper
  have h1 : y.c.isSend = true := by rw [h]; rfl
  have h2 : y.c.pendingOut = [] := by rw [h]; rfl
  cases ha with
  | timedOutChord v t keys nw iv hrep hit hemp =>
    cases h
    exact ⟨⟨t, rfl⟩, rfl, hit, keys, nw, iv, hrep, rfl, by simpa using hemp⟩
  | _ => simp [Ctl.isSend, Ctl.pendingOut] at h1 h2

/-- the timeout the property prescribes: what is left until the deadline (1 ms if it has passed) -/
def remaining (deadline now : Nat) : Nat := if now ≥ deadline then msToNs 1 else deadline - now

/-- C11 (arming): a step that returns `Repeating{keys, delay, interval}` arms the timer with deadline
`t₀ + delay`, where `t₀` is the clock reading taken right after the step's output was written -/
theorem C11_arm (L : Layout) (v : LoopVars) (rest : List Dev) (keys : List Key) (d i : Int) (t0 : Nat) :
    (advance L ⟨v, Ctl.stepNow rest keys d i⟩ (Resp.time t0)).v.rep =
      WorkingRepeat.repeating keys (t0 + msToNs (asU64 d)) i := rfl

/-- C11 (cancel): every accepted key event re-decides the timer from the step's repeat field (C09:
`Disabled` unless the step fired a Special mapping; ignored events say `NoChange`), and every tablet
event stops it -/
theorem C11_cancel (L : Layout) (v : LoopVars) (rest : List Dev) :
    (afterStep v rest RRepeat.disabled).v.rep = WorkingRepeat.idle ∧
    (afterStep v rest RRepeat.noChange).v.rep = v.rep ∧
    (∀ tev, (advance L ⟨v, Ctl.readTab rest⟩ (Resp.tab (Next.one tev))).v.rep = WorkingRepeat.idle) := by
  refine ⟨rfl, rfl, ?_⟩
  intro tev; rw [adv_tab_one]; split <;> rfl

/-- one quiet timer cycle from the top of the loop: clock read, `poll` with the prescribed timeout,
time-out, chord (if not empty) — and the deadline moves on by exactly one interval, independent of
the clock (no drift) -/
theorem C11_cycle (L : Layout) (v : LoopVars) (keys : List Key) (nw : Nat) (iv : Int)
    (hrep : v.rep = WorkingRepeat.repeating keys nw iv) (hit : v.inTablet = false) (now : Nat) :
    let v' : LoopVars := { v with rep := WorkingRepeat.repeating keys (nw + msToNs (asU64 iv)) iv }
    runScript L ⟨v, Ctl.pollNow⟩
        ([Resp.time now, Resp.poll PollRes.timedOut] ++ (if (chordOf v.m keys).isEmpty then [] else [Resp.unit])) =
      ([Call.now, Call.poll (some (remaining nw now))] ++
         (if (chordOf v.m keys).isEmpty then [] else [Call.send SendKind.chord (chordOf v.m keys)]),
       ⟨v', Ctl.pollNow⟩) := by
  have htop : toPollTop { v with rep := WorkingRepeat.repeating keys (nw + msToNs (asU64 iv)) iv } =
      ⟨{ v with rep := WorkingRepeat.repeating keys (nw + msToNs (asU64 iv)) iv }, Ctl.pollNow⟩ := rfl
  by_cases hc : (chordOf v.m keys).isEmpty = true
  · simp only [hc, if_true, List.append_nil, runScript, pending, adv_pollNow L v hrep,
      adv_timedOut_chord L v hrep hit, htop, remaining]
  · simp only [hc, Bool.false_eq_true, if_false, runScript, pending, adv_pollNow L v hrep,
      adv_timedOut_chord L v hrep hit, List.cons_append, List.nil_append, adv_sendChord, htop, remaining]

/-- the script of quiet cycles with clock readings `nows` (`chord` = the chord being repeated) -/
def quietScript (chord : List Event) : List Nat → List Resp
  | [] => []
  | now :: nows =>
    [Resp.time now, Resp.poll PollRes.timedOut] ++ (if chord.isEmpty then [] else [Resp.unit]) ++
      quietScript chord nows

/-- the calls of quiet cycles: the j-th `poll` waits for what is left until `nw + j·interval` -/
def quietCalls (chord : List Event) (iv : Int) : Nat → List Nat → List Call
  | _, [] => []
  | nw, now :: nows =>
    [Call.now, Call.poll (some (remaining nw now))] ++
      (if chord.isEmpty then [] else [Call.send SendKind.chord chord]) ++
      quietCalls chord iv (nw + msToNs (asU64 iv)) nows

/-- C11 (deadline, no drift): as long as only time-outs arrive, the n-th chord is written in reaction
to the time-out of a `poll` whose timeout was `(t₀ + delay + n·interval) − now` (1 ms if already
due), whatever the clock readings `nows` are: the deadlines do not depend on when the loop woke up. -/
theorem C11_deadline (L : Layout) (m : State) (keys : List Key) (iv : Int) (inT : Bool) (rc : Nat)
    (hit : inT = false) (nows : List Nat) (nw : Nat) :
    runScript L ⟨⟨m, WorkingRepeat.repeating keys nw iv, inT, rc⟩, Ctl.pollNow⟩ (quietScript (chordOf m keys) nows) =
      (quietCalls (chordOf m keys) iv nw nows,
       ⟨⟨m, WorkingRepeat.repeating keys (nw + nows.length * msToNs (asU64 iv)) iv, inT, rc⟩, Ctl.pollNow⟩) := by
  induction nows generalizing nw with
  | nil => simp [quietScript, quietCalls, runScript]
  | cons now nows ih =>
    simp only [quietScript, quietCalls]
    rw [runScript_append]
    have cyc := C11_cycle L ⟨m, WorkingRepeat.repeating keys nw iv, inT, rc⟩ keys nw iv rfl hit now
    simp only at cyc
    rw [cyc]
    simp only
    rw [ih (nw + msToNs (asU64 iv))]
    simp only [List.length_cons, Prod.mk.injEq, true_and]
    have : nw + msToNs (asU64 iv) + nows.length * msToNs (asU64 iv) = nw + (nows.length + 1) * msToNs (asU64 iv) := by
      rw [Nat.add_mul]; omega
    rw [this]

/-- C11 (wait at most the delay): with a monotone clock the first timeout after arming is at most the
delay (and at least the 1 ms floor if the deadline has passed) -/
theorem C11_first_wait (t0 d now : Nat) (hmono : t0 ≤ now) :
    remaining (t0 + d) now ≤ max d (msToNs 1) := by
  unfold remaining
  split
  · exact Nat.le_max_right _ _
  · have : t0 + d - now ≤ d := by omega
    exact Nat.le_trans this (Nat.le_max_left _ _)

/-! Non-vacuity: unit-test layout `remapping_loop_repeat_3` (`B → B` with Special [LEFTCTRL, C], 130 ms,
30 ms) with physical LEFTCTRL held (the D2 witness): the chord leaves LEFTCTRL alone. -/
example :
    let L : Layout := [⟨[48], [48], Repeat.special [29, 46] 130 30, []⟩]
    let s := (step L (step L State.init (Event.pressed 29)).1 (Event.pressed 48)).1
    held s = [29] ∧ chordOf s [29, 46] = [Event.pressed 46, Event.released 46] ∧
    legal (held s) (chordOf s [29, 46]) = true := by
  decide

example :
    let L : Layout := [⟨[48], [48], Repeat.special [29, 46] 130 30, []⟩]
    (Machine.init L).map (fun x0 => (runScript L x0
      [Resp.unit, Resp.poll (PollRes.deviceEvent [Dev.keyboard]), Resp.kbd (Next.one (Event.pressed 48)), Resp.unit,
       Resp.time 1000, Resp.kbd Next.busy, Resp.time 5000, Resp.poll PollRes.timedOut, Resp.unit,
       Resp.time 130002000, Resp.poll PollRes.timedOut, Resp.unit]).1) =
    some [Call.registerPoll, Call.poll none, Call.nextKeyboard, Call.send SendKind.step [Event.pressed 48, Event.released 48],
          Call.now, Call.nextKeyboard, Call.now, Call.poll (some 129996000),
          Call.send SendKind.chord [Event.pressed 29, Event.pressed 46, Event.released 46, Event.released 29],
          Call.now, Call.poll (some 29999000),
          Call.send SendKind.chord [Event.pressed 29, Event.pressed 46, Event.released 46, Event.released 29]] := by
  decide

end TmVerif
