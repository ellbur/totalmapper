/-
C05, in-effect clauses (layouts without absorbing mappings, as the property says):

 * "Releasing a physical key … never [lifts] a key that a mapping remaining in effect outputs."
 * "While a mapping stays in effect, presses and releases of other keys do not lift those of its
   output keys that no other mapping also outputs: the modifiers of a modifier-remapping, and the
   whole output of a normal-repeat mapping without modifiers (the latter until a no-repeat mapping
   fires)."
-/
import TmVerif.Props.C05
import TmVerif.Props.C04
import TmVerif.Proofs.Compat
import TmVerif.Proofs.Inert

namespace TmVerif

/-! ### second release clause -/

theorem dropFailing_released_unused (k : Key) (s : State) (rb after : List Mapping) (y : Key)
    (hy : Event.released y ∈ (dropFailing k s rb after).2) :
    ∀ m', m' ∈ (dropFailing k s rb after).1.active → y ∉ m'.to := by
  induction rb generalizing s after with
  | nil => simp [dropFailing] at hy
  | cons m rb ih =>
    simp only [dropFailing] at hy ⊢
    split
    · rename_i hf
      simp only [hf, if_true, List.mem_append] at hy
      rcases hy with hy | hy
      · rw [removeMapping_eq] at hy
        simp only [List.mem_map, Event.released.injEq, exists_eq_right, List.mem_filter, List.mem_reverse] at hy
        have hnu : usedBy (rb.reverse ++ after) y = false := by
          have := hy.2; simp only [relP, Bool.and_eq_true, Bool.not_eq_eq_eq_not, Bool.not_true] at this
          exact this.1
        intro m' hm' hym'
        have hm'' : m' ∈ rb.reverse ++ after := by
          simp only [dropFailing_ctl, removeMapping_eq, List.mem_append, List.mem_filter] at hm' ⊢; grind
        have : usedBy (rb.reverse ++ after) y = true := (usedBy_iff _ _).mpr ⟨m', hm'', hym'⟩
        rw [hnu] at this; simp at this
      · exact ih _ after hy
    · rename_i hf
      simp only [hf] at hy
      exact ih s (m :: after) hy

/-- C05 (release, second clause): in a layout without absorbing, an accepted release never lifts a key
that a mapping remaining in effect outputs -/
theorem C05_release_keeps (L : Layout) (hL : NoAbs L) (x : Sys) (hx : ReachableEv L x) (k : Key) (hk : k ∈ x.s.inp)
    (y : Key) (hy : Event.released y ∈ (step L x.s (Event.released k)).2.events) :
    ∀ m', m' ∈ (step L x.s (Event.released k)).1.active → y ∉ m'.to := by
  rw [step_release hk] at hy ⊢
  have hs := hx.reachable.sinv
  have hc := hx.consumed
  simp only [releaseKey_eq] at hy ⊢
  have hdf := dropFailing_spec k x.s x.s.active.reverse [] hs.inv.i (by simp)
  simp only [List.mem_append] at hy
  intro m' hm'
  simp only [releaseTail_ctl] at hm'
  rcases hy with hy | hy
  · exact dropFailing_released_unused k x.s x.s.active.reverse [] y hy m' hm'
  · have hyk := releaseTail_released _ k y hy
    subst hyk
    -- k itself was passed through (after the drop loop): no remaining mapping outputs it
    have hkp : y ∈ (dropFailing y x.s x.s.active.reverse []).1.pass := by
      by_cases hnp : y ∈ (dropFailing y x.s x.s.active.reverse []).1.pass
      · exact hnp
      · exfalso
        simp [releaseTail, hnp] at hy
    rcases dropFailing_pass_new y x.s x.s.active.reverse [] y hkp with h1 | h1
    · exact fun hto => hc m' (hdf.2.actSub m' hm') y (Or.inr hto) h1
    · exact (h1 m' hm').2

/-! ### a mapped key that nothing releases -/

/-- `y` stays a mapped output key and is not released -/
def Keeps (y : Key) (s s' : State) (evs : List Event) : Prop :=
  (y ∈ s.mapped → y ∈ s'.mapped) ∧ Event.released y ∉ evs

theorem Keeps.trans {y : Key} {a b c : State} {e1 e2 : List Event} (h1 : Keeps y a b e1) (h2 : Keeps y b c e2) :
    Keeps y a c (e1 ++ e2) :=
  ⟨fun h => h2.1 (h1.1 h), by
    intro h; rcases List.mem_append.mp h with h | h
    · exact h1.2 h
    · exact h2.2 h⟩

theorem collectKeys_sound (mapped acc ks : List Key) (x : Key) (hx : x ∈ collectKeys mapped acc ks) :
    x ∈ acc ∨ x ∈ ks := by
  induction ks generalizing acc with
  | nil => exact Or.inl hx
  | cons k ks ih =>
    simp only [collectKeys] at hx
    split at hx
    · rcases ih _ hx with h | h
      · simp at h; rcases h with h | h
        · exact Or.inl h
        · exact Or.inr (by simp [h])
      · exact Or.inr (by simp [h])
    · rcases ih _ hx with h | h
      · exact Or.inl h
      · exact Or.inr (by simp [h])

theorem keysToRelease_sound (mapped acc : List Key) (ms : List Mapping) (x : Key)
    (hx : x ∈ keysToRelease mapped acc ms) :
    x ∈ acc ∨ ∃ m, m ∈ ms ∧ isActionMapping m = true ∧ isAnyModifier m.to = true ∧ x ∈ m.to := by
  induction ms generalizing acc with
  | nil => exact Or.inl hx
  | cons m ms ih =>
    simp only [keysToRelease] at hx
    split at hx
    · rename_i hc
      simp only [Bool.and_eq_true, decide_eq_true_eq] at hc
      rcases ih _ hx with h | ⟨m', hm', h'⟩
      · rcases collectKeys_sound _ _ _ _ h with h1 | h1
        · exact Or.inl h1
        · exact Or.inr ⟨m, by simp, hc.1.1, hc.2, by simpa using h1⟩
      · exact Or.inr ⟨m', by simp [hm'], h'⟩
    · rcases ih _ hx with h | ⟨m', hm', h'⟩
      · exact Or.inl h
      · exact Or.inr ⟨m', by simp [hm'], h'⟩

/-- `release_action_mappings` leaves `y` alone unless an active key-producing mapping carrying a modifier outputs it -/
theorem ram_keeps (s : State) (y : Key)
    (h : ∀ m, m ∈ s.active → isActionMapping m = true → isAnyModifier m.to = true → y ∉ m.to) :
    Keeps y s (releaseActionMappings s).1 (releaseActionMappings s).2 := by
  have hn : y ∉ keysToRelease s.mapped [] s.active := by
    intro hx
    rcases keysToRelease_sound _ _ _ _ hx with h1 | ⟨m, hm, ha, hmod, hy⟩
    · simp at h1
    · exact h m hm ha hmod hy
  simp only [Keeps, releaseActionMappings, List.mem_filter, List.mem_map, Event.released.injEq, exists_eq_right]
  exact ⟨fun hm => ⟨hm, by simpa using hn⟩, hn⟩

theorem removeMapping_keeps (s : State) (before after : List Mapping) (rk y : Key)
    (hu : usedBy (before ++ after) y = true) :
    Keeps y s (removeMapping s before after rk).1 (removeMapping s before after rk).2 := by
  rw [removeMapping_eq]
  simp only [Keeps, List.mem_filter, List.mem_map, Event.released.injEq, exists_eq_right, List.mem_reverse]
  exact ⟨fun hm => ⟨hm, hu⟩, fun h => by simp [relP, hu] at h⟩

theorem dropFailing_keeps (k : Key) (s : State) (rb after : List Mapping) (y : Key) (m : Mapping)
    (hm : m ∈ rb.reverse ++ after) (hk : k ∉ m.frm) (hy : y ∈ m.to) :
    Keeps y s (dropFailing k s rb after).1 (dropFailing k s rb after).2 := by
  induction rb generalizing s after with
  | nil => exact ⟨fun h => by simpa [dropFailing] using h, by simp [dropFailing]⟩
  | cons m0 rb ih =>
    simp only [dropFailing]
    split
    · rename_i hf
      have hne : m ≠ m0 := by
        intro e; subst e; simp [failsWhenReleased] at hf; exact hk hf
      have hm' : m ∈ rb.reverse ++ after := by
        simp only [List.reverse_cons, List.append_assoc, List.mem_append, List.mem_reverse, List.mem_cons,
          List.mem_singleton, List.not_mem_nil, or_false] at hm ⊢
        rcases hm with h | h | h
        · exact Or.inl h
        · exact absurd h hne
        · exact Or.inr h
      exact (removeMapping_keeps s rb.reverse after k y ((usedBy_iff _ _).mpr ⟨m, hm', hy⟩)).trans
        (ih (removeMapping s rb.reverse after k).1 after hm')
    · apply ih s (m0 :: after)
      simp only [List.reverse_cons, List.append_assoc, List.mem_append, List.mem_reverse, List.mem_cons,
        List.mem_singleton, List.not_mem_nil, or_false] at hm ⊢
      exact hm

theorem releaseTail_keeps {extra : List Key} (s : State) (k y : Key) (h : IInv extra s) (hy : y ∈ s.mapped) :
    Keeps y s (releaseTail s k).1 (releaseTail s k).2 := by
  by_cases hc : s.pass.contains k = true
  · have hk : k ∈ s.pass := by simpa using hc
    have hne : y ≠ k := fun e => h.disj k hk (e ▸ hy)
    simp only [Keeps, releaseTail, hc, if_true, List.mem_singleton, Event.released.injEq]
    exact ⟨fun hm => hm, hne⟩
  · simp only [Keeps, releaseTail, hc]; exact ⟨fun hm => hm, by simp⟩

theorem afterConsume_keeps {extra : List Key} (s : State) (m : Mapping) (y : Key) (h : IInv extra s) (hy : y ∈ s.mapped) :
    Keeps y s (afterConsume s m) (consume m s.pass).2.2 := by
  simp only [Keeps, afterConsume, consume_eq, List.mem_append, List.mem_map, Event.released.injEq, exists_eq_right,
    List.mem_filter]
  exact ⟨fun hm => Or.inl hm, fun hx => h.disj y hx.1 hy⟩

theorem pressOne_keeps (s : State) (k y : Key) (hne : y ≠ k) : Keeps y s (pressOne s k).1 (pressOne s k).2 := by
  unfold pressOne Keeps
  split
  · split
    · exact ⟨fun h => h, by simp [hne]⟩
    · split
      · exact ⟨fun h => by simp [h], by simp [hne]⟩
      · exact ⟨fun h => by simp [h], by simp⟩
  · split
    · exact ⟨fun h => by simp [h], by simp⟩
    · exact ⟨fun h => h, by simp⟩

theorem pressAll_keeps (s : State) (ks : List Key) (y : Key) (hy : y ∉ ks) :
    Keeps y s (pressAll s ks).1 (pressAll s ks).2 := by
  induction ks generalizing s with
  | nil => exact ⟨fun h => h, by simp [pressAll]⟩
  | cons k ks ih =>
    rw [pressAll_cons]
    exact (pressOne_keeps s k y (fun e => hy (by simp [e]))).trans (ih _ (fun h => hy (by simp [h])))

theorem addPhase4_keeps (s : State) (k : Key) (m : Mapping) (y : Key)
    (h : m.rep.isNormal = true ∨ isActionKey y = false) :
    Keeps y s (addPhase4 s k m).1 (addPhase4 s k m).2.1 := by
  unfold addPhase4 Keeps
  cases hr : m.rep with
  | normal => exact ⟨fun h => h, by simp⟩
  | disabled =>
    have hy : isActionKey y = false := by rcases h with h | h; simp [hr, Repeat.isNormal] at h; exact h
    simp [releaseAllActionKeys, hy]
  | special ks d i =>
    have hy : isActionKey y = false := by rcases h with h | h; simp [hr, Repeat.isNormal] at h; exact h
    simp [releaseAllActionKeys, hy]

/-- C05 (keep): layouts without absorbing.  Let `m` be in effect before and after a step about a key
outside `m`'s trigger, and `y` an output key of `m` that no other mapping of the layout outputs, held on
the virtual keyboard.  If (A) `m` is a modifier-remapping and `y` a modifier, or (B) `m` is a
normal-repeat key-producing mapping without modifiers and the step does not fire a no-repeat mapping,
then `y` is still held after the step and the step does not release it. -/
theorem C05_keep (L : Layout) (hL : NoAbs L) (x : Sys) (hx : ReachableEv L x) (e : Event)
    (m : Mapping) (hm : m ∈ x.s.active) (hm' : m ∈ (step L x.s e).1.active) (hek : e.key ∉ m.frm)
    (y : Key) (hy : y ∈ m.to) (hex : ∀ m2, m2 ∈ L → y ∈ m2.to → m2 = m) (hV : y ∈ x.V)
    (hcase : (isActionMapping m = false ∧ isActionKey y = false) ∨
             (isAnyModifier m.to = false ∧
              ∀ k fm, e = Event.pressed k → findMapping L x.s k = some fm → fm.rep.isNormal = true)) :
    y ∈ (x.next L (Op.ev e)).V ∧ Event.released y ∉ (step L x.s e).2.events := by
  have hs := hx.reachable.sinv
  have hn := hx.nainv hL
  have hc := hx.consumed
  have hnext := (hx.reachable.next (Op.ev e)).sinv
  -- y is a mapped key
  have hym : y ∈ x.s.mapped := by
    rcases (mem_held x.s y).mp ((hs.vheld y).mp hV) with h | h
    · exact absurd h (hc m hm y (Or.inr hy))
    · exact h
  -- no active key-producing mapping carrying a modifier outputs y
  have hram : ∀ s' : State, s'.active = x.s.active →
      ∀ m2, m2 ∈ s'.active → isActionMapping m2 = true → isAnyModifier m2.to = true → y ∉ m2.to := by
    intro s' hs' m2 hm2 ha hmod hy2
    have := hex m2 (hs.inv.actL m2 (hs' ▸ hm2)) hy2
    subst this
    rcases hcase with ⟨h1, _⟩ | ⟨h1, _⟩
    · rw [h1] at ha; simp at ha
    · rw [h1] at hmod; simp at hmod
  suffices hk : Keeps y x.s (step L x.s e).1 (step L x.s e).2.events from
    ⟨(hnext.vheld y).mpr ((mem_held _ y).mpr (Or.inr (hk.1 hym))), hk.2⟩
  cases e with
  | released k =>
    by_cases hk : k ∈ x.s.inp
    · rw [step_released_accepted L x.s k hk] at hm' ⊢
      have hst : (newlyRelease x.s k).1 = (releaseKey x.s k).1 := rfl
      have hev : (newlyRelease x.s k).2.events = (releaseKey x.s k).2 := rfl
      rw [hst, hev, releaseKey_eq]
      have hdf := dropFailing_spec k x.s x.s.active.reverse [] hs.inv.i (by simp)
      have k1 := dropFailing_keeps k x.s x.s.active.reverse [] y m (by simpa using hm) (by simpa [Event.key] using hek) hy
      exact k1.trans (releaseTail_keeps _ k y hdf.1 (k1.1 hym))
    · rw [step_released_ignored L x.s k hk]; exact ⟨fun h => h, by simp⟩
  | pressed k =>
    by_cases hk : k ∈ x.s.inp
    · rw [step_pressed_ignored L x.s k hk]; exact ⟨fun h => h, by simp⟩
    · rw [step_pressed_accepted L x.s k hk] at hm' ⊢
      have hc0 : Clean (pressPrep x.s k) := ⟨by simp [pressPrep, hn.clean.abs], hn.clean.trig⟩
      have h0 := pressPrep_iinv k hs.inv.i
      cases hf : findMapping L x.s k with
      | some fm =>
        have fm_ne : fm ≠ m := by
          intro e; subst e
          have hfk := (findMapping_some hf).2.1
          exact hk (hs.inv.i.actInp fm hm k (finalKey_mem hfk))
        have hyfm : y ∉ fm.to := fun h => fm_ne (hex fm (findMapping_some hf).1 h)
        have fin := newlyPress_fire_finish hf
        have hst : (newlyPress L x.s k).1.mapped = (addPhase4 (addPhase3 (addPhase2 (afterConsume (pressPrep x.s k) fm) k fm).1 k fm).1 k fm).1.mapped := by
          rw [fin.1]; rfl
        have hc1 : Clean (afterConsume (pressPrep x.s k) fm) := ⟨hc0.abs, hc0.trig⟩
        have k1 := afterConsume_keeps (pressPrep x.s k) fm y h0 hym
        have k2 : Keeps y (afterConsume (pressPrep x.s k) fm) (addPhase2 (afterConsume (pressPrep x.s k) fm) k fm).1
            (addPhase2 (afterConsume (pressPrep x.s k) fm) k fm).2 := by
          rw [addPhase2_clean k fm hc1 (afterConsume_clear (pressPrep x.s k) fm)]
          -- (fix of D7) whether the block runs depends on `producesActionKey fm`; if it runs, what
          -- `release_action_mappings` collects does not depend on `fm` at all (`hram`)
          cases producesActionKey fm
          · exact ⟨fun h => h, by simp⟩
          · exact ram_keeps _ y (hram _ rfl)
        have k3 : Keeps y (addPhase2 (afterConsume (pressPrep x.s k) fm) k fm).1
            (addPhase3 (addPhase2 (afterConsume (pressPrep x.s k) fm) k fm).1 k fm).1
            (addPhase3 (addPhase2 (afterConsume (pressPrep x.s k) fm) k fm).1 k fm).2 := by
          have hpa := pressAll_keeps (addPhase2 (afterConsume (pressPrep x.s k) fm) k fm).1 fm.to y hyfm
          have hmp : (addPhase3 (addPhase2 (afterConsume (pressPrep x.s k) fm) k fm).1 k fm).1.mapped =
              (pressAll (addPhase2 (afterConsume (pressPrep x.s k) fm) k fm).1 fm.to).1.mapped := by
            unfold addPhase3; split <;> rfl
          exact ⟨fun h => by rw [hmp]; exact hpa.1 h, hpa.2⟩
        have hrepcase : fm.rep.isNormal = true ∨ isActionKey y = false := by
          rcases hcase with ⟨_, h2⟩ | ⟨_, h2⟩
          · exact Or.inr h2
          · exact Or.inl (h2 k fm rfl hf)
        have k4 := addPhase4_keeps (addPhase3 (addPhase2 (afterConsume (pressPrep x.s k) fm) k fm).1 k fm).1 k fm y hrepcase
        have kall := ((k1.trans k2).trans k3).trans k4
        exact ⟨fun h => by rw [hst]; exact kall.1 h, by rw [fin.2.1]; simpa [List.append_assoc] using kall.2⟩
      | none =>
        cases hcn : noHit x.s k with
        | false => rw [newlyPress_skip hf hcn]; exact ⟨fun h => h, by simp⟩
        | true =>
          rw [newlyPress_pass hf hcn]
          cases hak : isActionKey k with
          | false => rw [passThrough_nonaction _ k hak]; exact ⟨fun h => h, by simp⟩
          | true =>
            rw [passThrough_action _ k hak]
            have r1 := ram_keeps (pressPrep x.s k) y (hram _ rfl)
            have hrc := releaseActionMappings_clean hc0
            rw [releaseAbsorbedKeys_clean hrc]
            simp only [List.append_nil]
            exact ⟨fun h => r1.1 h, by
              intro hx; simp only [List.mem_append, List.mem_singleton] at hx
              rcases hx with hx | hx
              · exact r1.2 hx
              · simp at hx⟩

/-! Non-vacuity of `C05_keep` / `C05_release_keeps`: layout `LEFTSHIFT → LEFTCTRL` (a modifier remapping, LEFTCTRL
exclusively its own) and `A → B`.  While LEFTSHIFT is held (LEFTCTRL down), pressing and releasing A leaves LEFTCTRL
down and never releases it; the release of A lifts B only. -/
example :
    let L : Layout := [⟨[42], [29], Repeat.normal, []⟩, ⟨[30], [48], Repeat.normal, []⟩]
    let s1 := (run L State.init [Event.pressed 42]).1
    let s2 := (step L s1 (Event.pressed 30)).1
    noAbsLayout L = true ∧ held s1 = [29] ∧
    (step L s1 (Event.pressed 30)).2.events = [Event.pressed 48] ∧ 29 ∈ held s2 ∧
    (step L s2 (Event.released 30)).2.events = [Event.released 48] ∧ 29 ∈ held (step L s2 (Event.released 30)).1 := by
  decide

end TmVerif
