/-
The `Outcome` monad: its equations, `Sat x P` ("`x` does not panic and what it returns satisfies
`P`") with one rule per operation, and the guards in front of `.unwrap()` / `elems[len-1]` (key
lookup in JSON objects, last element of a non-empty array).
-/
import TmVerif.Model.Load

namespace TmVerif
namespace Outcome

@[simp] theorem bind_ok {α β : Type} (a : α) (f : α → Outcome β) : (ok a).bind f = f a := rfl
@[simp] theorem bind_error {α β : Type} (f : α → Outcome β) : (error : Outcome α).bind f = error := rfl
@[simp] theorem bind_panic {α β : Type} (f : α → Outcome β) : (panic : Outcome α).bind f = panic := rfl

@[simp] theorem bind_assoc {α β γ : Type} (x : Outcome α) (f : α → Outcome β) (g : β → Outcome γ) :
    (x.bind f).bind g = x.bind fun a => (f a).bind g := by
  cases x <;> rfl

@[simp] theorem ok_ne_panic {α : Type} (a : α) : (ok a : Outcome α) ≠ panic := nofun
@[simp] theorem error_ne_panic {α : Type} : (error : Outcome α) ≠ panic := nofun

theorem bind_ne_panic {α β : Type} {x : Outcome α} {f : α → Outcome β}
    (hx : x ≠ panic) (hf : ∀ a, x = ok a → f a ≠ panic) : x.bind f ≠ panic := by
  cases x with
  | ok a => exact hf a rfl
  | error => simp
  | panic => exact absurd rfl hx

theorem bind_eq_ok {α β : Type} {x : Outcome α} {f : α → Outcome β} {b : β} :
    x.bind f = ok b ↔ ∃ a, x = ok a ∧ f a = ok b := by
  cases x <;> simp

@[simp] theorem ofOption_ne_panic {α : Type} (o : Option α) : ofOption o ≠ panic := by
  cases o <;> simp [ofOption]

theorem ofOption_eq_ok {α : Type} {o : Option α} {a : α} : ofOption o = ok a ↔ o = some a := by
  cases o <;> simp [ofOption]

@[simp] theorem unwrapO_some {α : Type} (a : α) : unwrapO (some a) = ok a := rfl

theorem unwrapO_eq_ok {α : Type} {o : Option α} {a : α} : unwrapO o = ok a ↔ o = some a := by
  cases o <;> simp [unwrapO]

theorem mapM_ne_panic {α β : Type} {f : α → Outcome β} (l : List α) (h : ∀ x ∈ l, f x ≠ panic) :
    mapM f l ≠ panic := by
  induction l with
  | nil => simp [mapM]
  | cons x xs ih =>
    simp only [mapM]
    apply bind_ne_panic (h x (List.mem_cons_self ..))
    intro y _
    apply bind_ne_panic (ih fun z hz => h z (List.mem_cons_of_mem _ hz))
    intro ys _
    simp

theorem mapM_cons_eq_ok {α β : Type} {f : α → Outcome β} {x : α} {xs : List α} {ys : List β} :
    mapM f (x :: xs) = ok ys ↔ ∃ y ys', f x = ok y ∧ mapM f xs = ok ys' ∧ ys = y :: ys' := by
  simp only [mapM, bind_eq_ok]
  constructor
  · rintro ⟨y, hy, ys', hys', h⟩
    simp at h
    exact ⟨y, ys', hy, hys', h.symm⟩
  · rintro ⟨y, ys', hy, hys', h⟩
    exact ⟨y, hy, ys', hys', by simp [h]⟩

/-- every result of `mapM` is the result of an element -/
theorem mapM_mem {α β : Type} {f : α → Outcome β} {l : List α} {ys : List β} (h : mapM f l = ok ys)
    {y : β} (hy : y ∈ ys) : ∃ x ∈ l, f x = ok y := by
  induction l generalizing ys with
  | nil => simp [mapM] at h; subst h; cases hy
  | cons x xs ih =>
    obtain ⟨y', ys', hy', hys', rfl⟩ := mapM_cons_eq_ok.1 h
    rcases List.mem_cons.1 hy with rfl | hy
    · exact ⟨x, List.mem_cons_self .., hy'⟩
    · obtain ⟨z, hz, hfz⟩ := ih hys' hy
      exact ⟨z, List.mem_cons_of_mem _ hz, hfz⟩

theorem mapM_map_eq {α β γ : Type} {f : β → Outcome γ} {h : α → β} {g : α → γ} (l : List α)
    (hf : ∀ x ∈ l, f (h x) = ok (g x)) : mapM f (l.map h) = ok (l.map g) := by
  induction l with
  | nil => rfl
  | cons x xs ih =>
    simp [mapM, hf x (List.mem_cons_self ..), ih fun z hz => hf z (List.mem_cons_of_mem _ hz)]

/-- `mapM` of a function that succeeds on every element is `map` -/
theorem mapM_eq_map {α β : Type} {f : α → Outcome β} {g : α → β} (l : List α)
    (h : ∀ x ∈ l, f x = ok (g x)) : mapM f l = ok (l.map g) := by
  simpa using mapM_map_eq (h := id) l h

/-! ## `Sat`

A function of the loader is followed once: `Sat (f x) P` gives both that `f x` is not a panic and
what is known of its result.  A guard of the Rust code shows up as the hypothesis of `sat_unwrapO`. -/

/-- `x` does not panic, and what it returns satisfies `P` -/
def Sat {α : Type} (x : Outcome α) (P : α → Prop) : Prop := x ≠ panic ∧ ∀ a, x = ok a → P a

theorem sat_ok {α : Type} {P : α → Prop} {a : α} (h : P a) : Sat (ok a) P :=
  ⟨ok_ne_panic a, fun _ h' => ok.inj h' ▸ h⟩

theorem sat_error {α : Type} {P : α → Prop} : Sat (error : Outcome α) P := ⟨error_ne_panic, nofun⟩

theorem Sat.bind {α β : Type} {x : Outcome α} {f : α → Outcome β} {P : α → Prop} {Q : β → Prop}
    (hx : Sat x P) (hf : ∀ a, P a → Sat (f a) Q) : Sat (x.bind f) Q := by
  cases x with
  | ok a => exact hf a (hx.2 a rfl)
  | error => exact sat_error
  | panic => exact absurd rfl hx.1

theorem Sat.mono {α : Type} {x : Outcome α} {P Q : α → Prop} (hx : Sat x P) (h : ∀ a, P a → Q a) : Sat x Q :=
  ⟨hx.1, fun a ha => h a (hx.2 a ha)⟩

theorem sat_ite {α : Type} {P : α → Prop} {c : Prop} [Decidable c] {x y : Outcome α} (hx : Sat x P) (hy : Sat y P) :
    Sat (if c then x else y) P := by
  split <;> assumption

theorem sat_ofOption {α : Type} {P : α → Prop} {o : Option α} (h : ∀ a, o = some a → P a) : Sat (ofOption o) P :=
  ⟨ofOption_ne_panic o, fun a ha => h a (ofOption_eq_ok.1 ha)⟩

/-- `.unwrap()` behind a guard that makes the value present -/
theorem sat_unwrapO {α : Type} {o : Option α} (h : ∃ a, o = some a) : Sat (unwrapO o) (o = some ·) := by
  obtain ⟨a, rfl⟩ := h
  exact sat_ok rfl

/-- a loop: every result comes from an element, and has what that element's call guarantees -/
theorem sat_mapM {α β : Type} {f : α → Outcome β} {P : α → β → Prop} {l : List α} (h : ∀ x ∈ l, Sat (f x) (P x)) :
    Sat (mapM f l) fun ys => ∀ y ∈ ys, ∃ x ∈ l, P x y :=
  ⟨mapM_ne_panic l fun x hx => (h x hx).1, fun _ hys y hy =>
    have ⟨x, hx, hfx⟩ := mapM_mem hys hy
    ⟨x, hx, (h x hx).2 y hfx⟩⟩

theorem sat_mapM_all {α β : Type} {f : α → Outcome β} {p : β → Bool} (h : ∀ x, Sat (f x) (p · = true)) (l : List α) :
    Sat (mapM f l) (List.all · p = true) :=
  (sat_mapM fun x _ => h x).mono fun _ hys => List.all_eq_true.2 fun y hy =>
    have ⟨_, _, hp⟩ := hys y hy
    hp

end Outcome

open Outcome

/-! ## object keys -/

theorem mem_insertStr {x s : List Char} {l : List (List Char)} : x ∈ insertStr s l ↔ x = s ∨ x ∈ l := by
  induction l with
  | nil => simp [insertStr]
  | cons t ts ih =>
    simp only [insertStr]
    split
    · simp [ih]; constructor
      · rintro (h | h | h) <;> simp [h]
      · rintro (h | h | h) <;> simp [h]
    · simp

theorem mem_sortStrs {x : List Char} {l : List (List Char)} : x ∈ sortStrs l ↔ x ∈ l := by
  induction l with
  | nil => simp [sortStrs]
  | cons t ts ih => simp [sortStrs, mem_insertStr, ih]

theorem lookup_of_mem_keys {k : List Char} {kvs : List (List Char × Json)} (h : k ∈ kvs.map (·.1)) :
    ∃ v, Json.lookup k kvs = some v := by
  induction kvs with
  | nil => cases h
  | cons kv rest ih =>
    obtain ⟨k', v⟩ := kv
    simp only [Json.lookup]
    by_cases hk : k' = k
    · simp [hk]
    · simp only [beq_iff_eq, hk, if_false]
      apply ih
      simp only [List.map_cons, List.mem_cons] at h
      rcases h with h | h
      · exact absurd h.symm hk
      · exact h

theorem lookup_of_hasExactlyKeys {kvs : List (List Char × Json)} {check : List (List Char)}
    (h : hasExactlyKeys kvs check = true) {k : List Char} (hk : k ∈ check) :
    ∃ v, Json.lookup k kvs = some v := by
  apply lookup_of_mem_keys
  have : sortStrs (kvs.map (·.1)) = sortStrs check := by simpa [hasExactlyKeys] using h
  rw [← mem_sortStrs, this, mem_sortStrs]
  exact hk

theorem lookup_of_hasAtLeastKeys {kvs : List (List Char × Json)} {check : List (List Char)}
    (h : hasAtLeastKeys kvs check = true) {k : List Char} (hk : k ∈ check) :
    ∃ v, Json.lookup k kvs = some v := by
  simp only [hasAtLeastKeys, List.all_eq_true] at h
  have := h k hk
  simp only [Json.hasKey, Option.isSome_iff_exists] at this
  exact this

theorem getLast?_of_length_ne_zero {α : Type} {l : List α} (h : (l.length == 0) = false) :
    ∃ x, l.getLast? = some x := by
  cases l with
  | nil => simp at h
  | cons a as => exact ⟨_, List.getLast?_eq_some_getLast (List.cons_ne_nil a as)⟩

end TmVerif
