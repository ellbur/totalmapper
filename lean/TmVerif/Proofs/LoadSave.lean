/-
C15 machinery: what the loader does with a saved basic layout.
`serialize L` parses to the fancy layout `L.map toFancy` (all single mappings, no aliases), and
that expands back to `L`.
-/
import TmVerif.Proofs.LoadBasic
import TmVerif.Proofs.LoadKeys
import TmVerif.Proofs.LoadWellFormed
import TmVerif.Model.Expand

namespace TmVerif
open Outcome Parse Fancy TmVerif.Tables

/-! ## key names -/

theorem toNat_ofNat_ascii : ∀ c, c < 128 → (Char.ofNat c).toNat = c := by decide

theorem codesOf_charsOf {l : List Nat} (h : ∀ c ∈ l, c < 128) : codesOf (charsOf l) = l := by
  induction l with
  | nil => rfl
  | cons c cs ih =>
    simp only [codesOf, charsOf, List.map_cons, List.map_map] at ih ⊢
    rw [toNat_ofNat_ascii c (h c (List.mem_cons_self ..))]
    congr 1
    exact ih fun x hx => h x (List.mem_cons_of_mem _ hx)

theorem serdeNameIn_mem {k : Key} {tbl : List (Nat × List Nat × List Nat)} {s : List Nat}
    (h : serdeNameIn k tbl = some s) : ∃ v, (k, v, s) ∈ tbl := by
  induction tbl with
  | nil => cases h
  | cons r rest ih =>
    obtain ⟨d, v, s'⟩ := r
    simp only [serdeNameIn] at h
    split at h
    · rename_i hd
      simp at h hd; subst h; subst hd
      exact ⟨v, List.mem_cons_self ..⟩
    · obtain ⟨v', hv'⟩ := ih h
      exact ⟨v', List.mem_cons_of_mem _ hv'⟩

/-- the name under which a key is saved (`[]` for a number that is no key code) -/
def nameOf (k : Key) : List Char := (serdeName k).getD []

theorem serdeName_of_known {k : Key} (h : isKnownKey k = true) : serdeName k = some (nameOf k) := by
  simp only [isKnownKey, Option.isSome_iff_exists] at h
  obtain ⟨s, hs⟩ := h
  simp [nameOf, serdeName, hs]

/-- C15 for one key: the saved name is read back as the same key, and is not taken for an alias -/
theorem known_roundtrip {k : Key} (h : isKnownKey k = true) :
    parseKeyCode (nameOf k) = some k ∧ startsWithAt (nameOf k) = false := by
  simp only [isKnownKey, Option.isSome_iff_exists] at h
  obtain ⟨s, hs⟩ := h
  obtain ⟨v, hmem⟩ := serdeNameIn_mem hs
  obtain ⟨hp, _, hhead, hascii⟩ := keyTable_row hmem
  have hname : nameOf k = charsOf s := by simp [nameOf, serdeName, hs]
  rw [hname]
  refine ⟨by simp [parseKeyCode, codesOf_charsOf hascii, hp], ?_⟩
  cases s with
  | nil => rfl
  | cons c cs =>
    simp only [charsOf, List.map_cons, startsWithAt]
    rw [toNat_ofNat_ascii c (hascii c (List.mem_cons_self ..))]
    simp at hhead
    simp [hhead]

/-! ## saved form of key lists -/

def strName (k : Key) : Json := Json.str (nameOf k)

theorem optMapM_known {ks : List Key} (h : ∀ k ∈ ks, isKnownKey k = true) :
    Ser.optMapM Ser.keyJson ks = some (ks.map strName) := by
  induction ks with
  | nil => rfl
  | cons k ks ih =>
    have hk := serdeName_of_known (h k (List.mem_cons_self ..))
    simp [Ser.optMapM, Ser.keyJson, hk, ih fun x hx => h x (List.mem_cons_of_mem _ hx), strName]

theorem keysJson_known {ks : List Key} (h : ∀ k ∈ ks, isKnownKey k = true) :
    Ser.keysJson ks = some (Json.arr (ks.map strName)) := by
  simp [Ser.keysJson, optMapM_known h]

theorem parseKeyCodeO_name {k : Key} (h : isKnownKey k = true) : parseKeyCodeO (nameOf k) = ok k := by
  simp [parseKeyCodeO, (known_roundtrip h).1, ofOption]

theorem parseFromModifier_name {k : Key} (h : isKnownKey k = true) :
    parseFromModifier (strName k) = ok (Modifier.key k) := by
  simp [parseFromModifier, strName, (known_roundtrip h).2, parseKeyCodeO_name h]

theorem parseToInitialElem_name {k : Key} (h : isKnownKey k = true) :
    parseToInitialElem (strName k) = ok (Modifier.key k) := by
  simp [parseToInitialElem, strName, (known_roundtrip h).2, parseKeyCodeO_name h]

theorem parseAbsorbingElem_name {k : Key} (h : isKnownKey k = true) :
    parseAbsorbingElem (strName k) = ok (Modifier.key k) := by
  simp [parseAbsorbingElem, parseModifier, strName, (known_roundtrip h).2, parseKeyCodeO_name h]

theorem parseToInitial_names {ks : List Key} (h : ∀ k ∈ ks, isKnownKey k = true) :
    parseToInitial (ks.map strName) = ok (ks.map Modifier.key) :=
  mapM_map_eq ks fun k hk => parseToInitialElem_name (h k hk)

/-- a non-empty array of names: the `len() == 0` test fails, its front and its last element are the
names of the list's -/
theorem names_of_getLast {ks : List Key} {last : Key} (hl : ks.getLast? = some last) :
    ((ks.map strName).length == 0) = false ∧ (ks.map strName).dropLast = ks.dropLast.map strName ∧
      (ks.map strName).getLast? = some (strName last) := by
  refine ⟨?_, List.map_dropLast.symm, by rw [List.getLast?_map, hl]; rfl⟩
  cases ks with
  | nil => cases hl
  | cons _ _ => rfl

theorem known_dropLast {ks : List Key} (h : ∀ k ∈ ks, isKnownKey k = true) : ∀ k ∈ ks.dropLast, isKnownKey k = true :=
  fun k hk => h k ((List.dropLast_sublist ks).subset hk)

/-! ## the fancy layout a saved layout parses to -/

def keysToSingle (to : List Key) : SingleToKeys :=
  match to.getLast? with
  | none => ⟨[], Terminal.null⟩
  | some last => ⟨to.dropLast.map Modifier.key, Terminal.physical last⟩

def repToFancy : Repeat → SingleRepeat
  | Repeat.normal => SingleRepeat.normal
  | Repeat.disabled => SingleRepeat.disabled
  | Repeat.special keys d i => SingleRepeat.special (keysToSingle keys) d i

def toFancy (m : TmVerif.Mapping) : Fancy.Mapping :=
  Fancy.Mapping.single ⟨⟨m.frm.dropLast.map Modifier.key, m.frm.getLast?.getD 0⟩, keysToSingle m.to,
    repToFancy m.rep, m.absorbing.map Modifier.key⟩

theorem parseSingleToArray_names {ks : List Key} (h : ∀ k ∈ ks, isKnownKey k = true) :
    parseSingleToArray (ks.map strName) = ok (keysToSingle ks) := by
  unfold parseSingleToArray keysToSingle
  cases hl : ks.getLast? with
  | none => rw [List.getLast?_eq_none_iff.1 hl]; rfl
  | some last =>
    obtain ⟨hlen, hfront, hlast⟩ := names_of_getLast hl
    have hk := h last (List.mem_of_getLast? hl)
    simp only [hlen, hfront, hlast, parseToInitial_names (known_dropLast h), Bool.false_eq_true, if_false, unwrapO_some,
      bind_ok, parseSingleToTerminal, strName, parseSingleToText, (known_roundtrip hk).2, parseKeyCodeO_name hk]

theorem parseSingleOrAliasToArray_names {ks : List Key} (h : ∀ k ∈ ks, isKnownKey k = true) :
    parseSingleOrAliasToArray (ks.map strName) = ok (SingleOrAliasToKeys.single (keysToSingle ks)) := by
  unfold parseSingleOrAliasToArray keysToSingle
  cases hl : ks.getLast? with
  | none => rw [List.getLast?_eq_none_iff.1 hl]; rfl
  | some last =>
    obtain ⟨hlen, hfront, hlast⟩ := names_of_getLast hl
    have hk := h last (List.mem_of_getLast? hl)
    simp only [hlen, hfront, hlast, parseToInitial_names (known_dropLast h), Bool.false_eq_true, if_false, unwrapO_some,
      bind_ok, parseSingleOrAliasToTerminal, strName, parseSingleOrAliasToText, (known_roundtrip hk).2,
      parseKeyCodeO_name hk]

theorem parseFrom_names {ks : List Key} (hne : ks ≠ []) (h : ∀ k ∈ ks, isKnownKey k = true) :
    parseFrom (Json.arr (ks.map strName)) =
      ok (FromKeys.single ⟨ks.dropLast.map Modifier.key, ks.getLast?.getD 0⟩) := by
  have hl := List.getLast?_eq_some_getLast hne
  obtain ⟨hlen, hfront, hlast⟩ := names_of_getLast hl
  have hk := h _ (List.mem_of_getLast? hl)
  have hmods : parseFromModifiers (ks.dropLast.map strName) = ok (ks.dropLast.map Modifier.key) :=
    mapM_map_eq _ fun k hk => parseFromModifier_name (known_dropLast h k hk)
  simp only [parseFrom, hlen, hfront, hlast, hmods, hl, Bool.false_eq_true, if_false, unwrapO_some, bind_ok,
    parseFromKey, strName, parseFromKeyText, parseKeyCodeO_name hk, Option.getD_some]

/-! ## the objects `serialize` writes: their key tests and lookups, for any field values -/

theorem singleField (k : List Char) (v : Json) :
    hasExactlyKeys [(k, v)] [k] = true ∧ Json.lookup k [(k, v)] = some v := by
  simp [hasExactlyKeys, Json.lookup]

theorem specialFields (d i k : Json) :
    hasExactlyKeys [(sDelay, d), (sInterval, i), (sKeys, k)] [sKeys, sDelay, sInterval] = true ∧
    Json.lookup sKeys [(sDelay, d), (sInterval, i), (sKeys, k)] = some k ∧
    Json.lookup sDelay [(sDelay, d), (sInterval, i), (sKeys, k)] = some d ∧
    Json.lookup sInterval [(sDelay, d), (sInterval, i), (sKeys, k)] = some i :=
  ⟨rfl, rfl, rfl, rfl⟩

theorem mappingFields (a f r t : Json) :
    hasAtLeastKeys [(sAbsorbing, a), (sFrom, f), (sRepeat, r), (sTo, t)] [sFrom, sTo] = true ∧
    Json.lookup sFrom [(sAbsorbing, a), (sFrom, f), (sRepeat, r), (sTo, t)] = some f ∧
    Json.lookup sTo [(sAbsorbing, a), (sFrom, f), (sRepeat, r), (sTo, t)] = some t ∧
    Json.lookup sRepeat [(sAbsorbing, a), (sFrom, f), (sRepeat, r), (sTo, t)] = some r ∧
    Json.lookup sAbsorbing [(sAbsorbing, a), (sFrom, f), (sRepeat, r), (sTo, t)] = some a :=
  ⟨rfl, rfl, rfl, rfl, rfl⟩

/-! ## repeat -/

theorem toI32_of_inI32 {d : Int} (h : inI32 d = true) : toI32 d = d := by
  simp only [inI32, Bool.and_eq_true, decide_eq_true_eq] at h
  unfold toI32
  rw [Int.emod_eq_of_lt (by omega) (by omega)]
  omega

theorem parseRepeatMs_int {d : Int} (h : inI32 d = true) : parseRepeatMs (Json.num (JNum.int d)) = ok d := by
  have h' := h
  simp only [inI32, Bool.and_eq_true, decide_eq_true_eq] at h'
  have : (-9223372036854775808 ≤ d ∧ d ≤ 9223372036854775807) := by omega
  simp [parseRepeatMs, JNum.asI64, this, ofOption, toI32_of_inI32 h]

theorem parseSingleTo_names {ks : List Key} (h : ∀ k ∈ ks, isKnownKey k = true) :
    parseSingleTo (Json.arr (ks.map strName)) = ok (keysToSingle ks) := by
  simp [parseSingleTo, parseSingleToArray_names h]

theorem repeatJson_parse {r : Repeat} (h : Repeat.saveable r = true) :
    ∃ j, Ser.repeatJson r = some j ∧ parseSingleRepeat (some j) = ok (repToFancy r) := by
  cases r with
  | normal => exact ⟨_, rfl, by decide⟩
  | disabled => exact ⟨_, rfl, by decide⟩
  | special keys d i =>
    simp only [Repeat.saveable, Bool.and_eq_true, keysKnown_iff] at h
    obtain ⟨⟨hk, hd⟩, hi⟩ := h
    refine ⟨Json.obj [(sSpecial, Json.obj [(sDelay, Json.num (JNum.int d)), (sInterval, Json.num (JNum.int i)),
        (sKeys, Json.arr (keys.map strName))])], by simp [Ser.repeatJson, keysJson_known hk], ?_⟩
    obtain ⟨e1, l0⟩ := singleField sSpecial (Json.obj [(sDelay, Json.num (JNum.int d)),
      (sInterval, Json.num (JNum.int i)), (sKeys, Json.arr (keys.map strName))])
    obtain ⟨e2, l1, l2, l3⟩ := specialFields (Json.num (JNum.int d)) (Json.num (JNum.int i)) (Json.arr (keys.map strName))
    simp only [parseSingleRepeat, e1, e2, l0, l1, l2, l3, if_true, unwrapO_some, bind_ok,
      parseSingleTo_names hk, parseRepeatMs_int hd, parseRepeatMs_int hi, repToFancy]

/-! ## one mapping -/

theorem absorbingOk_keys {abs mods : List Key} (h : abs.all (fun k => mods.contains k) = true) :
    absorbingOk (abs.map Modifier.key) (mods.map Modifier.key) = true := by
  simp only [absorbingOk, List.all_eq_true, List.mem_map] at h ⊢
  rintro m ⟨k, hk, rfl⟩
  have := h k hk
  simp only [List.contains_eq_mem, decide_eq_true_eq] at this ⊢
  exact List.mem_map.2 ⟨k, this, rfl⟩

theorem mappingJson_parse {m : TmVerif.Mapping} (h : Mapping.saveable m = true) :
    ∃ j, Ser.mappingJson m = some j ∧ parseMappingFromJson j = ok (toFancy m) := by
  simp only [Mapping.saveable, Bool.and_eq_true, keysKnown_iff] at h
  obtain ⟨⟨⟨⟨⟨hwf, hf⟩, ht⟩, ha⟩, habs⟩, hrep⟩ := h
  obtain ⟨rj, hrj, hrp⟩ := repeatJson_parse hrep
  have hne : m.frm ≠ [] := by
    simp only [Mapping.wf, Bool.and_eq_true, bne_iff_ne, ne_eq] at hwf
    exact hwf.1.1
  refine ⟨Json.obj [(sAbsorbing, Json.arr (m.absorbing.map strName)), (sFrom, Json.arr (m.frm.map strName)),
      (sRepeat, rj), (sTo, Json.arr (m.to.map strName))],
    by simp [Ser.mappingJson, keysJson_known hf, keysJson_known ht, keysJson_known ha, hrj], ?_⟩
  obtain ⟨e1, l1, l2, l3, l4⟩ := mappingFields (Json.arr (m.absorbing.map strName)) (Json.arr (m.frm.map strName)) rj
    (Json.arr (m.to.map strName))
  have pa : parseAbsorbing (some (Json.arr (m.absorbing.map strName))) = ok (m.absorbing.map Modifier.key) :=
    mapM_map_eq _ fun k hk => parseAbsorbingElem_name (ha k hk)
  simp only [parseMappingFromJson, e1, l1, l2, l3, l4, if_true, unwrapO_some, bind_ok, parseFrom_names hne hf,
    parseSingleOrAliasTo, parseSingleOrAliasToArray_names ht, hrp, pa, absorbingOk_keys habs, toFancy]

/-! ## the whole layout: parse -/

theorem aliasNames_keys (ks : List Key) : aliasNames (ks.map Modifier.key) = [] := by
  induction ks with
  | nil => rfl
  | cons k ks ih => simpa [aliasNames] using ih

theorem aliasNames_keysToSingle (ks : List Key) : aliasNames (keysToSingle ks).initial = [] := by
  unfold keysToSingle
  split
  · rfl
  · exact aliasNames_keys _

theorem usedAliases_toFancy (m : TmVerif.Mapping) : mappingAllUsedAliases (toFancy m) = [] := by
  have : aliasNames (singleRepeatInitial (repToFancy m.rep)) = [] := by
    cases m.rep with
    | normal => rfl
    | disabled => rfl
    | special keys d i => exact aliasNames_keysToSingle keys
  simp [-List.map_dropLast, toFancy, mappingAllUsedAliases, aliasNames_keys, aliasNames_keysToSingle, this]

theorem mappings_parse {L : TmVerif.Layout} (h : Saveable L = true) :
    ∃ js, Ser.optMapM Ser.mappingJson L = some js ∧ mapM parseMappingFromJson js = ok (L.map toFancy) := by
  induction L with
  | nil => exact ⟨[], rfl, rfl⟩
  | cons m L ih =>
    simp only [Saveable, List.all_cons, Bool.and_eq_true] at h
    obtain ⟨j, hj, hp⟩ := mappingJson_parse h.1
    obtain ⟨js, hjs, hps⟩ := ih h.2
    exact ⟨j :: js, by simp [Ser.optMapM, hj, hjs], by simp [mapM, hp, hps]⟩

/-- the saved file parses to the fancy layout `L.map toFancy` -/
theorem serialize_parse {L : TmVerif.Layout} (h : Saveable L = true) :
    ∃ j, serialize L = some j ∧ parseLayoutFromJson j = ok (L.map toFancy) := by
  obtain ⟨js, hjs, hps⟩ := mappings_parse h
  refine ⟨Json.obj [(sMappings, Json.arr js)], by simp [serialize, hjs], ?_⟩
  obtain ⟨e1, l1⟩ := singleField sMappings (Json.arr js)
  have hall : allAliasesDefined (L.map toFancy) = true := by
    simp only [allAliasesDefined, List.all_eq_true, List.mem_map]
    rintro fm ⟨m, _, rfl⟩ a ha
    rw [usedAliases_toFancy] at ha
    cases ha
  simp only [parseLayoutFromJson, e1, l1, if_true, unwrapO_some, bind_ok, hps, hall]

/-! ## the whole layout: expand -/

namespace Expand

theorem slots_keys (ks : List Key) : slots (ks.map Modifier.key) = [] := by
  induction ks with
  | nil => rfl
  | cons k ks ih => simpa [slots] using ih

theorem trigger_keys (ks : List Key) (ch : List AliasMapping) : trigger (ks.map Modifier.key) ch = ks := by
  induction ks with
  | nil => rfl
  | cons k ks ih => simp [trigger, ih]

theorem outMods_keys (mods : List Modifier) (ch : List AliasMapping) (ks : List Key) :
    outMods mods ch (ks.map Modifier.key) = ok ks := by
  induction ks with
  | nil => rfl
  | cons k ks ih => simp [outMods, ih]

theorem dropLast_append_getLast {α : Type} {l : List α} {a : α} (h : l.getLast? = some a) :
    l.dropLast ++ [a] = l := by
  have hne : l ≠ [] := fun h0 => by simp [h0] at h
  rw [List.getLast?_eq_some_getLast hne] at h
  rw [← Option.some.inj h, List.dropLast_concat_getLast]

theorem outKeys_keysToSingle (mods : List Modifier) (ch : List AliasMapping) (ks : List Key) :
    outKeys mods ch (keysToSingle ks) = ok ks := by
  unfold keysToSingle
  cases hl : ks.getLast? with
  | none => rw [List.getLast?_eq_none_iff.1 hl]; rfl
  | some last => simp [-List.map_dropLast, outKeys, outMods_keys, dropLast_append_getLast hl]

theorem outRepeat_repToFancy (mods : List Modifier) (ch : List AliasMapping) (r : Repeat) :
    outRepeat mods ch (repToFancy r) = ok r := by
  cases r with
  | normal => rfl
  | disabled => rfl
  | special keys d i => simp [repToFancy, outRepeat, outKeys_keysToSingle]

/-- the fancy form of a basic mapping has no alias slot: one choice, and it expands to the mapping -/
theorem expandMapping_toFancy (F : Fancy.Layout) {m : TmVerif.Mapping} (hne : m.frm ≠ []) :
    expandMapping F (toFancy m) = ok [m] := by
  obtain ⟨last, hl⟩ : ∃ last, m.frm.getLast? = some last := ⟨_, List.getLast?_eq_some_getLast hne⟩
  simp [-List.map_dropLast, toFancy, expandMapping, expandSingle, slots_keys, slotDefs, choices, mapM, expandSingleOne,
    trigger_keys, outKeys_keysToSingle, outRepeat_repToFancy, outMods_keys, hl, dropLast_append_getLast hl]

/-- expanding the fancy form of a well-formed basic layout gives the layout back -/
theorem expand_toFancy {L : TmVerif.Layout} (hwf : Layout.wf L = true) : expand (L.map toFancy) = ok L := by
  have hwf' : ∀ m ∈ L, Mapping.wf m = true := List.all_eq_true.1 hwf
  have hne : ∀ m ∈ L, m.frm ≠ [] := fun m hm => by
    have := hwf' m hm
    simp only [Mapping.wf, Bool.and_eq_true, bne_iff_ne, ne_eq] at this
    exact this.1.1
  have hno : L.all (fun m => decide m.frm.Nodup && decide m.to.Nodup) = true :=
    List.all_eq_true.2 fun m hm => by
      have := hwf' m hm
      simp only [Mapping.wf, Bool.and_eq_true] at this
      simp [this.1.2, this.2]
  have hflat : (L.map fun m => [m]).flatten = L := by
    clear hwf hwf' hne hno
    induction L with
    | nil => rfl
    | cons m L ih => simp [ih]
  have hent : (L.map fun _ : TmVerif.Mapping => ([] : List (List Key × Repeat))).flatten = [] := by simp
  simp only [expand, mapM_map_eq L fun m hm => expandMapping_toFancy _ (hne m hm),
    mapM_map_eq (g := fun _ => []) L fun m _ => show repeatOnlyEntries _ (toFancy m) = ok [] from rfl,
    bind_ok, hflat, hent, List.foldl_nil, hno, if_true]

end Expand

end TmVerif
