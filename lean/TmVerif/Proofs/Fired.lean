/-
The observational definition of "the mapping fired by a step" (`Obs.fired`, used by the monitors)
coincides with the mapping `newly_press` selects (`findMapping`).
-/
import TmVerif.Proofs.Reach

namespace TmVerif

theorem fired_eq {L : Layout} {x : Sys} (h : SInv L x) (k : Key) (hk : k ∉ x.s.inp) :
    (x.obs L (Event.pressed k)).fired = findMapping L x.s k := by
  have hk' : x.s.inp.contains k = false := by simpa using hk
  simp only [Sys.obs, Obs.fired, hk', Bool.false_eq_true, if_false]
  -- a mapping that was active before does not end in `k`, which is not an input key
  have hold : ∀ l : List Mapping, (∀ m, m ∈ l → m ∈ x.s.active) →
      (match l.getLast? with
        | some m => if finalKey? m == some k then some m else none
        | none => none) = none := by
    intro l hl
    cases hg : l.getLast? with
    | none => rfl
    | some m =>
      have : finalKey? m ≠ some k :=
        fun hfk => hk (h.inv.i.actInp m (hl m (List.mem_of_getLast? hg)) k (finalKey_mem hfk))
      simp [this]
  cases hf : findMapping L x.s k with
  | some m => simp [step_fire hk hf, (findMapping_some hf).2.1]
  | none =>
    refine hold _ fun m hm => ((step_sub L x.s _).2 m hm).resolve_right fun ⟨k', he, hf'⟩ => ?_
    cases he
    rw [hf] at hf'
    cases hf'

theorem fired_released (L : Layout) (x : Sys) (k : Key) :
    (x.obs L (Event.released k)).fired = none := rfl

theorem fired_ignored (L : Layout) (x : Sys) (k : Key) (hk : k ∈ x.s.inp) :
    (x.obs L (Event.pressed k)).fired = none := by
  simp [Sys.obs, Obs.fired, hk]

end TmVerif
