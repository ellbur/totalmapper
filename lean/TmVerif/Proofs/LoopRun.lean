/-
Runs of the loop model against a script of answers, with the ghost account; the lift of `LoopInv`
to whole runs; the link between the ghost account and the visible calls.
-/
import TmVerif.Proofs.Loop

namespace TmVerif

/-- run with the ghost account (same machine as `runScript`) -/
def runG (L : Layout) : Machine → Ghost → List Resp → Machine × Ghost
  | x, g, [] => (x, g)
  | x, g, r :: rs =>
    match pending x with
    | none => (x, g)
    | some _ => runG L (advance L x r) (ghostStep x r g) rs

theorem runG_machine (L : Layout) (x : Machine) (g : Ghost) (rs : List Resp) :
    (runG L x g rs).1 = (runScript L x rs).2 := by
  induction rs generalizing x g with
  | nil => rfl
  | cons r rs ih =>
    simp only [runG, runScript]
    cases pending x with
    | none => rfl
    | some c => simp only; exact ih _ _

theorem pending_bad (v : LoopVars) : pending ⟨v, Ctl.bad⟩ = none := rfl
theorem pending_done (v : LoopVars) (e : Option String) : pending ⟨v, Ctl.done e⟩ = none := rfl

theorem pending_of_bad {x : Machine} (h : x.c = Ctl.bad) : pending x = none := by
  obtain ⟨v, c⟩ := x; cases h; rfl

/-- a machine that is not blocked on a call stays as it is -/
theorem runG_stopped {L : Layout} {x : Machine} (hp : pending x = none) (g : Ghost) (rs : List Resp) :
    runG L x g rs = (x, g) := by
  cases rs <;> simp [runG, hp]

theorem runScript_stopped {L : Layout} {x : Machine} (hp : pending x = none) (rs : List Resp) :
    runScript L x rs = ([], x) := by
  cases rs <;> simp [runScript, hp]

/-- `bad` is absorbing: a run that does not end in `bad` takes an arm at every answer -/
theorem Adv.of_runG {L : Layout} {x : Machine} {r : Resp} {g : Ghost} {rs : List Resp}
    (hnb : (runG L (advance L x r) g rs).1.c ≠ Ctl.bad) : Adv L x r (advance L x r) :=
  Adv.of_ne_bad fun hb => hnb (by rw [runG_stopped (pending_of_bad hb)]; exact hb)

/-- along every run: either an ill-typed answer occurred (`bad`), or the invariant holds at the end -/
theorem LoopInv.run {L : Layout} {x : Machine} {g : Ghost} (h : LoopInv L x g) (rs : List Resp) :
    (runG L x g rs).1.c = Ctl.bad ∨ LoopInv L (runG L x g rs).1 (runG L x g rs).2 := by
  induction rs generalizing x g with
  | nil => exact Or.inr h
  | cons r rs ih =>
    simp only [runG]
    cases hp : pending x with
    | none => exact Or.inr h
    | some c =>
      by_cases hb : (runG L (TmVerif.advance L x r) (ghostStep x r g) rs).1.c = Ctl.bad
      · exact Or.inl hb
      · exact ih (h.adv (Adv.of_runG hb))

/-- payloads of the step / release-all sends among the calls -/
def callsSends : List Call → List (List Event)
  | [] => []
  | Call.send SendKind.step evs :: cs => evs :: callsSends cs
  | Call.send SendKind.relAll evs :: cs => evs :: callsSends cs
  | _ :: cs => callsSends cs

/-- payloads of the chord sends among the calls -/
def callsChords : List Call → List (List Event)
  | [] => []
  | Call.send SendKind.chord evs :: cs => evs :: callsChords cs
  | _ :: cs => callsChords cs

/-- no answer of the script is a failure -/
def noErr : List Resp → Bool
  | [] => true
  | Resp.err _ :: _ => false
  | _ :: rs => noErr rs

theorem noErr_cons {r : Resp} {rs : List Resp} (h : noErr (r :: rs) = true) :
    (∀ msg, r ≠ Resp.err msg) ∧ noErr rs = true := by
  cases r <;> simp_all [noErr]

/-- the recorded call carries the payload of the pending step / release-all send -/
theorem callsSends_cons_of_pending {x : Machine} {c : Call} (hp : pending x = some c) (cs : List Call) :
    callsSends (c :: cs) = x.c.pendingOut ++ callsSends cs := by
  obtain ⟨v, ct⟩ := x
  cases ct <;> cases hp <;> rfl

/-- an answer that is not a failure completes the pending step / release-all send -/
theorem Adv.sent {L : Layout} {x y : Machine} {r : Resp} (ha : Adv L x r y) (hr : ∀ msg, r ≠ Resp.err msg)
    (g : Ghost) : (ghostStep x r g).sent = g.sent ++ x.c.pendingOut := by
  cases ha with
  | err v c msg hc => exact absurd rfl (hr msg)
  | _ => simp [ghostStep, Ctl.pendingOut, *]

/-- without failures, the ghost `sent` list is exactly the step / release-all sends among the calls -/
theorem sent_eq_callsSends (L : Layout) (x : Machine) (g : Ghost) (rs : List Resp) (hne : noErr rs = true)
    (hnb : (runG L x g rs).1.c ≠ Ctl.bad) :
    (runG L x g rs).2.sent = g.sent ++ callsSends (runScript L x rs).1 := by
  induction rs generalizing x g with
  | nil => simp [runG, runScript, callsSends]
  | cons r rs ih =>
    simp only [runG, runScript] at hnb ⊢
    cases hp : pending x with
    | none => simp [callsSends]
    | some c =>
      simp only [hp] at hnb ⊢
      rw [ih _ _ (noErr_cons hne).2 hnb, (Adv.of_runG hnb).sent (noErr_cons hne).1, callsSends_cons_of_pending hp,
        List.append_assoc]

end TmVerif
