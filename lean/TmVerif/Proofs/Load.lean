/-
The loader as a whole: `convert = expand` (C13_spec) from its layers, then the parser's guarantee
and what `expand` returns put together (`load_sat`).
-/
import TmVerif.Proofs.LoadParse
import TmVerif.Proofs.LoadSpec
import TmVerif.Proofs.LoadExpandB
import TmVerif.Proofs.LoadExpandC

namespace TmVerif
open Outcome

namespace Convert
open Fancy Expand

/-- C13_spec: the imperative conversion IS the declarative expansion -/
theorem convert_eq_expand (F : Fancy.Layout) : convert F = expand F := by
  unfold convert expand
  rw [firstPass_eq, ← funext (convertMapping_eq F), bind_assoc]
  congr 1
  funext groups
  have htab : TableExact (pushAll groups.flatten [] []).2 groups.flatten := by
    simpa using pushAll_exact groups.flatten [] [] (fun fs => rfl)
  simp only [bind_ok, pushAll_fst, List.nil_append,
    secondPass_eq F htab F groups.flatten ⟨Nat.le_refl _, by rw [List.take_length]⟩, bind_assoc, noRepeatedKeys_eq]

end Convert

/-- `convert` never panics (for every fancy layout, parse-produced or not); what it returns is
well-formed if alias definitions have a key, and saveable if the layout is what the parser returns -/
theorem convert_sat (F : Fancy.Layout) :
    Sat (convert F) fun L =>
      (Fancy.aliasFromNonempty F = true → Layout.wf L = true) ∧ (Fancy.layoutOK F = true → Saveable L = true) := by
  rw [Convert.convert_eq_expand]
  exact Expand.expand_sat F

/-- loading never panics, and every layout it returns is saveable -/
theorem load_sat (j : Json) : Sat (load j) (Saveable · = true) :=
  (parseLayoutFromJson_sat j).bind fun F hF => (convert_sat F).mono fun _ h => h.2 hF

open Outcome in
/-- Every layout the loader can produce is saveable: C15 covers every layout that
`add_systemd_service` can be handed. -/
theorem load_saveable {j : Json} {L : Layout} (h : load j = ok L) : Saveable L = true :=
  (load_sat j).2 L h

end TmVerif
