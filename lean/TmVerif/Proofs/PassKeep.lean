/-
How each sub-function of a step treats the membership of one key `k` in the pass-through list,
under a side condition saying `k` is not involved.  Used for C05 (non-interference) and I8.
-/
import TmVerif.Proofs.NoAbs

namespace TmVerif

theorem ram_pass (s : State) (k : Key) (hk : k ∉ s.mapped) {extra : List Key} (h : IInv extra s) :
    k ∈ (releaseActionMappings s).1.pass ↔ k ∈ s.pass := by
  have hsub := (keysToRelease_spec s.mapped [] s.active (by simp) (by simp)).2
  simp only [releaseActionMappings, List.mem_filter]
  constructor
  · exact fun h1 => h1.1
  · intro h1
    refine ⟨h1, ?_⟩
    have : k ∉ keysToRelease s.mapped [] s.active := fun h2 => hk (hsub k h2)
    simpa using this

theorem removeMapping_pass (s : State) (before after : List Mapping) (rk k : Key) (hk : k ∉ s.mapped) :
    k ∈ (removeMapping s before after rk).1.pass ↔ k ∈ s.pass := by
  rw [removeMapping_eq]
  simp only [List.mem_append, List.mem_filter, List.mem_reverse]
  constructor
  · rintro (h1 | h1)
    · exact h1
    · exact absurd h1.1 hk
  · exact fun h1 => Or.inl h1

theorem removeMapping_mapped_sub (s : State) (before after : List Mapping) (rk k : Key)
    (h : k ∈ (removeMapping s before after rk).1.mapped) : k ∈ s.mapped := by
  rw [removeMapping_eq] at h; simp only [List.mem_filter] at h; exact h.1

theorem dropFailing_pass (k0 : Key) (s : State) (rb after : List Mapping) (k : Key) (hk : k ∉ s.mapped) :
    (k ∈ (dropFailing k0 s rb after).1.pass ↔ k ∈ s.pass) ∧ k ∉ (dropFailing k0 s rb after).1.mapped := by
  induction rb generalizing s after with
  | nil => exact ⟨by simp [dropFailing], by simpa [dropFailing] using hk⟩
  | cons m rb ih =>
    simp only [dropFailing]
    split
    · have h1 := removeMapping_pass s rb.reverse after k0 k hk
      have h2 : k ∉ (removeMapping s rb.reverse after k0).1.mapped :=
        fun h3 => hk (removeMapping_mapped_sub s rb.reverse after k0 k h3)
      have h3 := ih (removeMapping s rb.reverse after k0).1 after h2
      exact ⟨h3.1.trans h1, h3.2⟩
    · exact ih s (m :: after) hk

theorem releaseTail_pass (s : State) (k0 k : Key) (hne : k ≠ k0) (hnd : s.pass.Nodup) :
    (k ∈ (releaseTail s k0).1.pass ↔ k ∈ s.pass) ∧ (releaseTail s k0).1.mapped = s.mapped := by
  unfold releaseTail
  by_cases hc : s.pass.contains k0 = true
  · simp only [hc, if_true]
    refine ⟨?_, by simp⟩
    rw [mem_removeLast k0 k hnd]
    exact ⟨fun h => h.1, fun h => ⟨h, hne⟩⟩
  · simp only [hc]; exact ⟨by simp, by simp⟩

theorem releaseKey_pass {extra : List Key} (s : State) (k0 k : Key) (hne : k ≠ k0) (hk : k ∉ s.mapped)
    (h : IInv extra s) :
    (k ∈ (releaseKey s k0).1.pass ↔ k ∈ s.pass) ∧ k ∉ (releaseKey s k0).1.mapped := by
  rw [releaseKey_eq]
  have h1 := dropFailing_pass k0 s s.active.reverse [] k hk
  have hi := (dropFailing_spec k0 s s.active.reverse [] h (by simp)).1
  have h2 := releaseTail_pass (dropFailing k0 s s.active.reverse []).1 k0 k hne hi.ndPass
  refine ⟨h2.1.trans h1.1, ?_⟩
  simp only; rw [h2.2]; exact h1.2

theorem releaseAbsorbedLoop_pass {extra : List Key} (s : State) (ks : List Key) (k : Key) (hks : k ∉ ks)
    (hk : k ∉ s.mapped) (h : IInv extra s) :
    (k ∈ (releaseAbsorbedLoop s ks).1.pass ↔ k ∈ s.pass) ∧ k ∉ (releaseAbsorbedLoop s ks).1.mapped := by
  induction ks generalizing s with
  | nil => exact ⟨Iff.rfl, hk⟩
  | cons k0 ks ih =>
    rw [releaseAbsorbedLoop_cons]
    have hne : k ≠ k0 := fun e => hks (by simp [e])
    have h1 := releaseKey_pass s k0 k hne hk h
    have hi := (releaseKey_spec k0 h).1
    have h2 := ih (releaseKey s k0).1 (fun hm => hks (by simp [hm])) h1.2 hi
    exact ⟨h2.1.trans h1.1, h2.2⟩

theorem releaseAbsorbedKeys_pass {extra : List Key} (s : State) (k : Key) (hks : k ∉ s.absorbed)
    (hk : k ∉ s.mapped) (h : IInv extra s) :
    (k ∈ (releaseAbsorbedKeys s).1.pass ↔ k ∈ s.pass) ∧ k ∉ (releaseAbsorbedKeys s).1.mapped := by
  unfold releaseAbsorbedKeys
  exact releaseAbsorbedLoop_pass _ s.absorbed k hks hk
    ⟨h.ndPass, h.ndMapped, h.disj, h.passInp, h.actInp, h.mappedAct⟩

theorem afterConsume_pass (s : State) (m : Mapping) (k : Key) (h1 : k ∉ m.frm) (h2 : k ∉ m.to) :
    (k ∈ (afterConsume s m).pass ↔ k ∈ s.pass) ∧ (k ∈ (afterConsume s m).mapped ↔ k ∈ s.mapped) := by
  simp only [afterConsume, consume_eq, List.mem_filter, List.mem_append]
  constructor
  · constructor
    · exact fun h => h.1
    · intro h; exact ⟨h, by simp [h1, h2]⟩
  · constructor
    · rintro (h | h)
      · exact h
      · simp [h2] at h
    · exact fun h => Or.inl h

theorem pressOne_pass (s : State) (y k : Key) (hne : k ≠ y) :
    (k ∈ (pressOne s y).1.pass ↔ k ∈ s.pass) ∧ (k ∈ (pressOne s y).1.mapped ↔ k ∈ s.mapped) := by
  unfold pressOne
  split
  · split
    · exact ⟨Iff.rfl, Iff.rfl⟩
    · split
      · simp [hne]
      · simp [hne]
  · split
    · simp [hne]
    · exact ⟨Iff.rfl, Iff.rfl⟩

theorem pressAll_pass (s : State) (ys : List Key) (k : Key) (hk : k ∉ ys) :
    (k ∈ (pressAll s ys).1.pass ↔ k ∈ s.pass) ∧ (k ∈ (pressAll s ys).1.mapped ↔ k ∈ s.mapped) := by
  induction ys generalizing s with
  | nil => exact ⟨Iff.rfl, Iff.rfl⟩
  | cons y ys ih =>
    rw [pressAll_cons]
    have h1 := pressOne_pass s y k (fun e => hk (by simp [e]))
    have h2 := ih (pressOne s y).1 (fun hm => hk (by simp [hm]))
    exact ⟨h2.1.trans h1.1, h2.2.trans h1.2⟩

theorem raak_pass (s : State) (k : Key) :
    (k ∈ (releaseAllActionKeys s).1.pass ↔ k ∈ s.pass ∧ isActionKey k = false) ∧
    (k ∈ (releaseAllActionKeys s).1.mapped ↔ k ∈ s.mapped ∧ isActionKey k = false) := by
  simp [releaseAllActionKeys]

end TmVerif
