/-
The lift of the step invariant to every reachable state (`SInv`), the release-all loop as a sequence of release
steps, and the induction principles over histories.
-/
import TmVerif.Proofs.StepInv
import TmVerif.Proofs.Sys

namespace TmVerif

structure SInv (L : Layout) (x : Sys) : Prop where
  inv : Inv L x.P x.s
  vheld : ∀ k, k ∈ x.V ↔ k ∈ held x.s

theorem Inv.monoP {L : Layout} {P P' : List Key} {s : State} (h : Inv L P s)
    (hsub : ∀ k, k ∈ P → k ∈ P') : Inv L P' s :=
  ⟨h.i, fun k hk => hsub k (h.inpP k hk), h.actL, h.noHid, h.actNe⟩

/-! ### release steps and the release-all loop -/

/-- a release, acted on or not, forgets the key as input and emits releases only -/
theorem step_released (L : Layout) (s : State) (k : Key) :
    (step L s (Event.released k)).1.inp = s.inp.filter (fun x => x != k) ∧
    ((step L s (Event.released k)).2.events = [] ∨ (step L s (Event.released k)).2.events = (releaseKey s k).2) := by
  rcases step_cases L s (Event.released k) with ⟨hign, hs⟩ | ⟨k', he, hk, hs⟩ | ⟨_, _, he, _⟩ | ⟨_, he, _⟩ | ⟨_, he, _⟩
  · refine ⟨?_, Or.inl (by rw [hs])⟩
    rw [hs]; exact (List.filter_eq_self.mpr fun x hx => by have : x ≠ k := fun e => hign (e ▸ hx); simpa using this).symm
  · cases he; rw [hs]; exact ⟨by simp, Or.inr rfl⟩
  all_goals cases he

theorem releaseAllLoop_cons (L : Layout) (s : State) (k : Key) (ks : List Key) :
    releaseAllLoop L s (k :: ks) =
      ((releaseAllLoop L (step L s (Event.released k)).1 ks).1,
       (step L s (Event.released k)).2.events ++ (releaseAllLoop L (step L s (Event.released k)).1 ks).2) := rfl

theorem releaseAllLoop_inp (L : Layout) (s : State) (ks : List Key) :
    (releaseAllLoop L s ks).1.inp = s.inp.filter (fun x => !ks.contains x) := by
  induction ks generalizing s with
  | nil => exact (List.filter_eq_self.mpr fun _ _ => rfl).symm
  | cons k ks ih =>
    rw [releaseAllLoop_cons, ih, (step_released L s k).1, List.filter_filter]
    apply List.filter_congr; intro x _; by_cases h : x = k <;> simp [h]

/-- a property of states that every step preserves (from states satisfying `Inv`) is preserved by the release-all
loop, which is a sequence of release steps; with it the invariant (for the unchanged physical set) and legality -/
theorem releaseAllLoop_spec {L : Layout} {P : List Key} {Q : State → Prop}
    (hstep : ∀ P s e, Inv L P s → Q s → Q (step L s e).1) (s : State) (ks : List Key) (h : Inv L P s) (hq : Q s) :
    Inv L P (releaseAllLoop L s ks).1 ∧ Q (releaseAllLoop L s ks).1 ∧
    Emits (held s) (releaseAllLoop L s ks).2 (held (releaseAllLoop L s ks).1) ∧
    (∀ e, e ∈ (releaseAllLoop L s ks).2 → e.isRelease = true) := by
  induction ks generalizing s with
  | nil => exact ⟨h, hq, Emits.refl _, by simp [releaseAllLoop]⟩
  | cons k ks ih =>
    rw [releaseAllLoop_cons]
    have hs := step_inv L P s (Event.released k) h
    have h2 := ih _ (hs.1.monoP fun x hx => ((mem_applyEv_released _ _ _).mp hx).1) (hstep P s _ h hq)
    refine ⟨h2.1, h2.2.1, hs.2.1.trans h2.2.2.1, fun e he => ?_⟩
    rcases List.mem_append.mp he with h3 | h3
    · rcases (step_released L s k).2 with h4 | h4 <;> rw [h4] at h3
      · cases h3
      · exact (releaseKey_spec k h.i).2.allRel e h3
    · exact h2.2.2.2 e h3

/-- a state with no input key held holds nothing on the output -/
theorem Inv.rest {L : Layout} {P : List Key} {s : State} (h : Inv L P s) (hinp : s.inp = []) :
    s.pass = [] ∧ s.active = [] ∧ s.mapped = [] := by
  have hp : s.pass = [] := by
    apply List.eq_nil_iff_forall_not_mem.mpr
    intro x hx; have := h.i.passInp x hx; rw [hinp] at this; simp at this
  have ha : s.active = [] := by
    apply List.eq_nil_iff_forall_not_mem.mpr
    intro m hm
    obtain ⟨x, hx⟩ := List.exists_mem_of_ne_nil _ (h.actNe m hm)
    have := h.i.actInp m hm x hx; rw [hinp] at this; simp at this
  refine ⟨hp, ha, ?_⟩
  apply List.eq_nil_iff_forall_not_mem.mpr
  intro x hx
  rcases h.i.mappedAct x hx with h1 | ⟨m, hm, _⟩
  · simp at h1
  · rw [ha] at hm; simp at hm

/-- `release_all` forgets every input key (so that nothing is held any more: `Inv.rest`) -/
theorem releaseAll_spec (L : Layout) (P : List Key) (s : State) (h : Inv L P s) :
    Inv L P (releaseAll L s).1 ∧
    Emits (held s) (releaseAll L s).2 (held (releaseAll L s).1) ∧
    (∀ e, e ∈ (releaseAll L s).2 → e.isRelease = true) ∧ (releaseAll L s).1.inp = [] := by
  have h1 := releaseAllLoop_spec (Q := fun _ => True) (fun _ _ _ _ _ => trivial) s s.inp h trivial
  refine ⟨h1.1, h1.2.2.1, h1.2.2.2, ?_⟩
  rw [releaseAll, releaseAllLoop_inp, List.filter_eq_nil_iff]; intro x hx; simpa using hx

/-! ### reachable states -/

theorem SInv.init (L : Layout) : SInv L Sys.init :=
  ⟨Inv.init L, by simp [Sys.init, State.init, held]⟩

theorem SInv.next {L : Layout} {x : Sys} (h : SInv L x) (op : Op) :
    SInv L (x.next L op) ∧ Emits x.V (x.out L op) (x.next L op).V := by
  cases op with
  | ev e =>
    have hs := step_inv L x.P x.s e h.inv
    have hem := hs.2.1.congr_left (fun k => (h.vheld k).symm)
    exact ⟨⟨hs.1, hem.2⟩, ⟨hem.1, fun _ => Iff.rfl⟩⟩
  | relAll =>
    have hs := releaseAll_spec L x.P x.s h.inv
    have hem := hs.2.1.congr_left (fun k => (h.vheld k).symm)
    exact ⟨⟨hs.1, hem.2⟩, ⟨hem.1, fun _ => Iff.rfl⟩⟩

theorem Reachable.init (L : Layout) : Reachable L Sys.init := ⟨[], rfl⟩

theorem Reachable.next {L : Layout} {x : Sys} (h : Reachable L x) (op : Op) : Reachable L (x.next L op) := by
  obtain ⟨ops, rfl⟩ := h
  exact ⟨ops ++ [op], by simp [Sys.run, List.foldl_append]⟩

/-- induction over reachable states -/
theorem Reachable.induction {L : Layout} {motive : Sys → Prop} (h0 : motive Sys.init)
    (hstep : ∀ y op, Reachable L y → motive y → motive (y.next L op)) (x : Sys) (hx : Reachable L x) :
    motive x := by
  obtain ⟨ops, rfl⟩ := hx
  suffices ∀ y, Reachable L y → motive y → motive (Sys.run L y ops) from this _ (Reachable.init L) h0
  induction ops with
  | nil => exact fun y _ h => h
  | cons op ops ih =>
    intro y hy hm
    simp only [Sys.run, List.foldl_cons]
    exact ih _ (hy.next op) (hstep y op hy hm)

theorem Reachable.sinv {L : Layout} {x : Sys} (h : Reachable L x) : SInv L x :=
  Reachable.induction (SInv.init L) (fun _ op _ hy => (hy.next op).1) x h

/-- a property of mapper states that holds initially and that every step preserves (from states satisfying `Inv`)
holds in every reachable state: `release_all` is a sequence of steps -/
theorem Reachable.invariant {L : Layout} {Q : State → Prop} (h0 : Q State.init)
    (hstep : ∀ P s e, Inv L P s → Q s → Q (step L s e).1) {x : Sys} (hx : Reachable L x) : Q x.s := by
  refine Reachable.induction (motive := fun x => Q x.s) h0 (fun y op hy hq => ?_) x hx
  cases op with
  | ev e => exact hstep _ _ e hy.sinv.inv hq
  | relAll => exact (releaseAllLoop_spec hstep y.s y.s.inp hy.sinv.inv hq).2.1

/-- legality of the whole concatenated output of a history -/
theorem outs_legal {L : Layout} {x : Sys} (h : SInv L x) (ops : List Op) :
    Emits x.V (Sys.outs L x ops) (x.run L ops).V := by
  induction ops generalizing x with
  | nil => exact Emits.refl _
  | cons op ops ih =>
    have h1 := h.next op
    exact h1.2.trans (ih h1.1)

end TmVerif
