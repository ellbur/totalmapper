/-
Alias definitions, slots and choices of the specification (`Model/Expand.lean`): what `slotDefs`
returns, and where the elements of a choice come from.  Used on both sides of `convert = expand`.
-/
import TmVerif.Model.Expand

namespace TmVerif
namespace Expand
open Fancy

theorem mem_defsOf {F : Fancy.Layout} {n : List Char} {a : AliasMapping} (h : a ∈ defsOf F n) : Mapping.alias a ∈ F := by
  simp only [defsOf, List.mem_filterMap] at h
  obtain ⟨m, hm, hma⟩ := h
  cases m with
  | alias a' =>
    simp only [Option.ite_none_right_eq_some, Option.some.injEq] at hma
    exact hma.2 ▸ hm
  | single _ => cases hma
  | row _ => cases hma
  | repeatOnly _ => cases hma

/-- `slotDefs` succeeds iff every slot has a definition; it then lists the definitions slot by slot -/
theorem slotDefs_some {F : Fancy.Layout} {ns : List (List Char)} :
    ∀ {ds : List (List AliasMapping)}, slotDefs F ns = some ds → ds = ns.map (defsOf F) ∧ ∀ l ∈ ds, l ≠ [] := by
  induction ns with
  | nil => intro ds h; cases h; exact ⟨rfl, nofun⟩
  | cons n ns ih =>
    intro ds h
    simp only [slotDefs] at h
    split at h
    · cases h
    · cases h
    · rename_i d0 ds0 rest hdefs hrest
      cases h
      obtain ⟨h1, h2⟩ := ih hrest
      refine ⟨by rw [List.map_cons, hdefs, ← h1], fun l hl => ?_⟩
      rcases List.mem_cons.1 hl with rfl | hl
      · exact List.cons_ne_nil _ _
      · exact h2 l hl

theorem slotDefs_mem {F : Fancy.Layout} {ns : List (List Char)} {ds : List (List AliasMapping)}
    (h : slotDefs F ns = some ds) : ∀ l ∈ ds, ∀ d ∈ l, Mapping.alias d ∈ F := by
  intro l hl d hd
  rw [(slotDefs_some h).1] at hl
  obtain ⟨n, _, rfl⟩ := List.mem_map.1 hl
  exact mem_defsOf hd

theorem mem_of_mem_choices {α : Type} {ds : List (List α)} :
    ∀ {ch : List α}, ch ∈ choices ds → ∀ d ∈ ch, ∃ l ∈ ds, d ∈ l := by
  induction ds with
  | nil => intro ch h d hd; cases List.mem_singleton.1 h; cases hd
  | cons l rest ih =>
    intro ch h d hd
    simp only [choices, List.mem_flatMap, List.mem_map] at h
    obtain ⟨tail, htail, d0, hd0, rfl⟩ := h
    rcases List.mem_cons.1 hd with rfl | hd
    · exact ⟨l, List.mem_cons_self .., hd0⟩
    · obtain ⟨l', hl', hd'⟩ := ih htail d hd
      exact ⟨l', List.mem_cons_of_mem _ hl', hd'⟩

end Expand
end TmVerif
