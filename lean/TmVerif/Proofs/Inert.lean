/-
The auxiliary fields are behaviourally inert except through the absorbed keys that are still held
("live").  `Eqv s t`: same core, same live absorbed keys (in order), and the same absorbing trigger
if any key is live.  Every step maps `Eqv`-related reachable states to `Eqv`-related states with
identical outputs — so a mapper at rest answers exactly like a fresh one (C06).
-/
import TmVerif.Proofs.Frame

namespace TmVerif

/-- absorbed keys that the mapper still considers held -/
def live (s : State) : List Key := s.absorbed.filter fun k => s.inp.contains k

structure Eqv (s t : State) : Prop where
  inp : s.inp = t.inp
  active : s.active = t.active
  pass : s.pass = t.pass
  mapped : s.mapped = t.mapped
  liveEq : live s = live t
  trig : live s ≠ [] → s.absTrig = t.absTrig

theorem Eqv.refl (s : State) : Eqv s s := ⟨rfl, rfl, rfl, rfl, rfl, fun _ => rfl⟩

theorem Eqv.eq_withAux {s t : State} (h : Eqv s t) : t = withAux s t.absorbed t.absTrig t.repTrig := by
  obtain ⟨i1, a1, p1, m1, ab1, at1, rt1⟩ := s
  obtain ⟨i2, a2, p2, m2, ab2, at2, rt2⟩ := t
  have h1 := h.inp; have h2 := h.active; have h3 := h.pass; have h4 := h.mapped
  simp only at h1 h2 h3 h4
  subst h1 h2 h3 h4
  rfl

theorem IInv.withAux {extra : List Key} {s : State} (h : IInv extra s) (a b c) : IInv extra (withAux s a b c) :=
  h.congr rfl rfl rfl rfl

theorem IInv.of_equiv {extra : List Key} {s t : State} (h : IInv extra s) (he : Eqv s t) : IInv extra t := by
  rw [he.eq_withAux]; exact h.withAux _ _ _

/-! ### stale absorbed keys are skipped by `release_absorbed_keys` -/

theorem dropFailing_none (k : Key) (s : State) (rb after : List Mapping) (h : ∀ m, m ∈ rb → k ∉ m.frm) :
    dropFailing k s rb after = ({ s with active := rb.reverse ++ after }, []) := by
  induction rb generalizing after with
  | nil => rfl
  | cons m rb ih =>
    have hm : failsWhenReleased m.frm k = false := by
      simpa [failsWhenReleased] using h m (by simp)
    simp only [dropFailing, hm, Bool.false_eq_true, if_false]
    rw [ih (m :: after) (fun m' hm' => h m' (by simp [hm']))]
    simp

theorem releaseKey_stale {extra : List Key} {s : State} (h : IInv extra s) (k : Key) (hk : k ∉ s.inp) :
    releaseKey s k = (s, []) := by
  rw [releaseKey_eq]
  have hnone : ∀ m, m ∈ s.active.reverse → k ∉ m.frm := by
    intro m hm hkm; exact hk (h.actInp m (by simpa using hm) k hkm)
  rw [dropFailing_none k s s.active.reverse [] hnone]
  have hs : ({ s with active := s.active.reverse.reverse ++ [] } : State) = s := by simp
  rw [hs]
  have hkp : k ∉ s.pass := fun hp => hk (h.passInp k hp)
  have hc : s.pass.contains k = false := by simpa using hkp
  have hf : s.inp.filter (fun k2 => k2 != k) = s.inp := by
    apply List.filter_eq_self.mpr
    intro x hx; simp; exact fun e => hk (e ▸ hx)
  simp only [releaseTail, hc, Bool.false_eq_true, if_false, hf, List.append_nil]

theorem releaseAbsorbedLoop_filter {extra : List Key} (p : Key → Bool) (s : State) (ks : List Key) (h : IInv extra s)
    (hp : ∀ x, x ∈ s.inp → p x = true) :
    releaseAbsorbedLoop s ks = releaseAbsorbedLoop s (ks.filter p) := by
  induction ks generalizing s with
  | nil => rfl
  | cons k ks ih =>
    cases hpk : p k with
    | true =>
      simp only [List.filter_cons, hpk, if_true, releaseAbsorbedLoop_cons]
      have r := releaseKey_spec k h
      rw [ih (releaseKey s k).1 r.1 (fun x hx => hp x (r.2.inpSub x hx))]
    | false =>
      have hk : k ∉ s.inp := fun hx => by have := hp k hx; rw [hpk] at this; simp at this
      simp only [List.filter_cons, hpk, Bool.false_eq_true, if_false, releaseAbsorbedLoop_cons,
        releaseKey_stale h k hk, List.nil_append]
      exact ih s h hp

theorem releaseAbsorbedKeys_eq_live {extra : List Key} {s : State} (h : IInv extra s) :
    releaseAbsorbedKeys s =
      (withAux (releaseAbsorbedLoop s (live s)).1 [] none s.repTrig, (releaseAbsorbedLoop s (live s)).2) := by
  have h0 : ({ s with absorbed := [], absTrig := none } : State) = withAux s [] none s.repTrig := rfl
  unfold releaseAbsorbedKeys
  rw [h0, releaseAbsorbedLoop_filter (fun k => s.inp.contains k) _ s.absorbed (h.withAux _ _ _)
    (by intro x hx; simpa using hx), releaseAbsorbedLoop_aux]
  rfl

/-- `release_absorbed_keys` on `Eqv` states: same events, `Eqv` results (nothing absorbed any more) -/
theorem releaseAbsorbedKeys_equiv {extra : List Key} {s t : State} (h : IInv extra s) (he : Eqv s t) :
    (releaseAbsorbedKeys s).2 = (releaseAbsorbedKeys t).2 ∧
    Eqv (releaseAbsorbedKeys s).1 (releaseAbsorbedKeys t).1 := by
  have ht := h.of_equiv he
  rw [releaseAbsorbedKeys_eq_live h, releaseAbsorbedKeys_eq_live ht, ← he.liveEq]
  have : releaseAbsorbedLoop t (live s) =
      (TmVerif.withAux (releaseAbsorbedLoop s (live s)).1 t.absorbed t.absTrig t.repTrig, (releaseAbsorbedLoop s (live s)).2) := by
    conv => lhs; rw [he.eq_withAux]
    exact releaseAbsorbedLoop_aux s _ _ _ _
  rw [this]
  exact ⟨rfl, ⟨rfl, rfl, rfl, rfl, by simp [live], fun _ => rfl⟩⟩

/-- with no live absorbed key, `release_absorbed_keys` changes nothing but the auxiliary fields -/
theorem releaseAbsorbedKeys_no_live {extra : List Key} {s : State} (h : IInv extra s) (hl : live s = []) :
    releaseAbsorbedKeys s = (withAux s [] none s.repTrig, []) := by
  rw [releaseAbsorbedKeys_eq_live h, hl]; rfl


/-! ### congruence of the press path -/

theorem live_pressPrep (s : State) (k : Key) (hk : k ∉ s.inp) : live (pressPrep s k) = live s := by
  simp only [live, pressPrep, List.filter_filter]
  apply List.filter_congr
  intro x _
  by_cases hx : x ∈ s.inp
  · have : x ≠ k := fun e => hk (e ▸ hx)
    simp [hx, this]
  · simp [hx]

theorem pressPrep_eqv {s t : State} (he : Eqv s t) (k : Key) (hk : k ∉ s.inp) :
    Eqv (pressPrep s k) (pressPrep t k) := by
  have hk' : k ∉ t.inp := he.inp ▸ hk
  refine ⟨he.inp, he.active, he.pass, he.mapped, ?_, ?_⟩
  · rw [live_pressPrep s k hk, live_pressPrep t k hk']; exact he.liveEq
  · intro hl; rw [live_pressPrep s k hk] at hl; exact he.trig hl

/-- for a key that is held, membership in the list `is_supported` consults depends only on the live
absorbed keys and (if there are any) the absorbing trigger -/
theorem absorbedKeys_contains {s t : State} (he : Eqv s t) (k x : Key) (hx : x ∈ s.inp) :
    (if shouldAbsorb s k then s.absorbed else []).contains x =
    (if shouldAbsorb t k then t.absorbed else []).contains x := by
  have hxl : ∀ u : State, u.inp = s.inp → (u.absorbed.contains x = (live u).contains x) := by
    intro u hu
    simp only [live, List.contains_eq_mem, List.mem_filter, hu, hx, decide_true, and_true]
  by_cases hl : live s = []
  · have hlt : live t = [] := he.liveEq ▸ hl
    have h1 : s.absorbed.contains x = false := by rw [hxl s rfl, hl]; rfl
    have h2 : t.absorbed.contains x = false := by rw [hxl t he.inp.symm, hlt]; rfl
    have h1' : x ∉ s.absorbed := by simpa using h1
    have h2' : x ∉ t.absorbed := by simpa using h2
    cases shouldAbsorb s k <;> cases shouldAbsorb t k <;> simp [h1', h2']
  · have ht := he.trig hl
    have hsa : shouldAbsorb s k = shouldAbsorb t k := by simp [shouldAbsorb, ht]
    rw [hsa]
    cases shouldAbsorb t k
    · rfl
    · simp only [if_true]; rw [hxl s rfl, hxl t he.inp.symm, he.liveEq]

theorem findMapping_eqv (L : Layout) {s t : State} (he : Eqv s t) (k : Key) (hk : k ∉ s.inp) :
    findMapping L s k = findMapping L t k := by
  have he0 := pressPrep_eqv he k hk
  simp only [findMapping]
  congr 1
  funext m
  simp only [isSupported]
  rw [← he0.inp]
  apply List.all_congr rfl
  intro x
  by_cases hx : x ∈ (pressPrep s k).inp
  · rw [absorbedKeys_contains he0 k x hx]
  · simp only [pressPrep_ctl] at hx; simp [hx]

theorem afterConsume_eqv {s t : State} (he : Eqv s t) (m : Mapping) :
    Eqv (afterConsume s m) (afterConsume t m) ∧ (consume m s.pass).2.2 = (consume m t.pass).2.2 := by
  refine ⟨⟨he.inp, he.active, ?_, ?_, he.liveEq, he.trig⟩, by rw [he.pass]⟩
  · simp only [afterConsume, he.pass]
  · simp only [afterConsume, he.pass, he.mapped]

theorem ram_eqv {s t : State} (he : Eqv s t) :
    Eqv (releaseActionMappings s).1 (releaseActionMappings t).1 ∧
    (releaseActionMappings s).2 = (releaseActionMappings t).2 := by
  have hl := he.liveEq; have ht := he.trig
  rw [he.eq_withAux, releaseActionMappings_aux]
  simp only [live, he.inp] at hl ht
  exact ⟨⟨rfl, rfl, rfl, rfl, by simpa [live, he.inp] using hl, by simpa [live, he.inp] using ht⟩, rfl⟩

/-- (D5 fix) `hp`: no pass-through key is mentioned by `m` — true right after the first consumption, the only
place `addPhase2` is used; without it the two states could take different `should_absorb` branches, one of
which consumes a second time. -/
theorem addPhase2_eqv {extra : List Key} {s t : State} (h : IInv extra s) (he : Eqv s t) (k : Key) (m : Mapping)
    (hp : ∀ x, x ∈ s.pass → x ∉ m.frm ∧ x ∉ m.to) :
    Eqv (addPhase2 s k m).1 (addPhase2 t k m).1 ∧ (addPhase2 s k m).2 = (addPhase2 t k m).2 := by
  have r : Eqv (ramIf m s).1 (ramIf m t).1 ∧ (ramIf m s).2 = (ramIf m t).2 := by
    cases ha : producesActionKey m
    · rw [ramIf_false m s ha, ramIf_false m t ha]; exact ⟨he, rfl⟩
    · rw [ramIf_true m s ha, ramIf_true m t ha]; exact ram_eqv he
  have hi := (ramIf_spec m h).1
  have hlive : live (ramIf m s).1 = live s := by simp [live]
  by_cases hl : live s = []
  · -- no live key: both branches leave the core alone and emit nothing more
    have hl1 : live (ramIf m s).1 = [] := hlive ▸ hl
    have hl2 : live (ramIf m t).1 = [] := r.1.liveEq ▸ hl1
    have hit := hi.of_equiv r.1
    have key : ∀ (u : State) (hu : IInv extra (ramIf m u).1) (hlu : live (ramIf m u).1 = [])
        (hpu : ∀ x, x ∈ u.pass → x ∉ m.frm ∧ x ∉ m.to),
        (addPhase2 u k m).2 = (ramIf m u).2 ∧
        (addPhase2 u k m).1.inp = (ramIf m u).1.inp ∧
        (addPhase2 u k m).1.active = (ramIf m u).1.active ∧
        (addPhase2 u k m).1.pass = (ramIf m u).1.pass ∧
        (addPhase2 u k m).1.mapped = (ramIf m u).1.mapped ∧
        live (addPhase2 u k m).1 = [] := by
      intro u hu hlu hpu
      cases hb : absorbsNow u k m
      · rw [addPhase2_skip u k m hb]; exact ⟨rfl, rfl, rfl, rfl, rfl, hlu⟩
      · rw [addPhase2_run u k m hb, releaseAbsorbedKeys_no_live hu hlu]
        have hp' : ∀ x, x ∈ (withAux (ramIf m u).1 [] none (ramIf m u).1.repTrig).pass →
            x ∉ m.frm ∧ x ∉ m.to := by
          intro x hx; exact hpu x ((ramIf_sub m u).1 x hx)
        have n := afterConsume_noop _ m hp'
        rw [n.1, n.2]
        exact ⟨by simp, rfl, rfl, rfl, rfl, by simp [live]⟩
    have ks := key s hi hl1 hp
    have kt := key t hit hl2 (he.pass ▸ hp)
    refine ⟨⟨?_, ?_, ?_, ?_, ?_, ?_⟩, ?_⟩
    · rw [ks.2.1, kt.2.1]; exact r.1.inp
    · rw [ks.2.2.1, kt.2.2.1]; exact r.1.active
    · rw [ks.2.2.2.1, kt.2.2.2.1]; exact r.1.pass
    · rw [ks.2.2.2.2.1, kt.2.2.2.2.1]; exact r.1.mapped
    · rw [ks.2.2.2.2.2, kt.2.2.2.2.2]
    · intro hne; exact absurd ks.2.2.2.2.2 hne
    · rw [ks.1, kt.1]; exact r.2
  · have ht := he.trig hl
    have hsa : absorbsNow s k m = absorbsNow t k m := by simp [absorbsNow, shouldAbsorb, ht]
    cases hb : absorbsNow s k m
    · rw [addPhase2_skip s k m hb, addPhase2_skip t k m (hsa ▸ hb)]; exact r
    · rw [addPhase2_run s k m hb, addPhase2_run t k m (hsa ▸ hb)]
      have q := releaseAbsorbedKeys_equiv hi r.1
      have q3 := afterConsume_eqv q.2 m
      exact ⟨q3.1, by rw [r.2, q.1, q3.2]⟩

theorem addAbsorbed_filter (p : Key → Bool) (a b : List Key) :
    (addAbsorbed a b).filter p = addAbsorbed (a.filter p) (b.filter p) := by
  induction b generalizing a with
  | nil => rfl
  | cons x b ih =>
    simp only [addAbsorbed, List.filter_cons]
    cases hp : p x
    · simp only [Bool.false_eq_true, if_false]
      split
      · exact ih a
      · rw [ih (a ++ [x])]; simp [hp]
    · simp only [if_true, addAbsorbed]
      have hc : (a.filter p).contains x = a.contains x := by
        simp [List.contains_eq_mem, List.mem_filter, hp]
      rw [hc]
      split
      · exact ih a
      · rw [ih (a ++ [x])]; simp [hp]

theorem addPhase34_aux (s : State) (a b c) (k : Key) (m : Mapping) :
    (finishFire (withAux s a b c) k m).pass = (finishFire s k m).pass ∧
    (finishFire (withAux s a b c) k m).mapped = (finishFire s k m).mapped ∧
    (addPhase3 (withAux s a b c) k m).2 = (addPhase3 s k m).2 ∧
    (addPhase4 (addPhase3 (withAux s a b c) k m).1 k m).2 = (addPhase4 (addPhase3 s k m).1 k m).2 := by
  have hp : (addPhase3 (withAux s a b c) k m).1.pass = (addPhase3 s k m).1.pass ∧
      (addPhase3 (withAux s a b c) k m).1.mapped = (addPhase3 s k m).1.mapped ∧
      (addPhase3 (withAux s a b c) k m).2 = (addPhase3 s k m).2 := by
    unfold addPhase3
    rw [pressAll_aux]
    split <;> exact ⟨rfl, rfl, rfl⟩
  have h4 : ∀ (u v : State), u.pass = v.pass → u.mapped = v.mapped →
      (addPhase4 u k m).1.pass = (addPhase4 v k m).1.pass ∧ (addPhase4 u k m).1.mapped = (addPhase4 v k m).1.mapped ∧
      (addPhase4 u k m).2 = (addPhase4 v k m).2 := by
    intro u v h1 h2
    unfold addPhase4
    cases m.rep <;> simp [releaseAllActionKeys, h1, h2]
  have := h4 _ _ hp.1 hp.2.1
  exact ⟨by simp only [finishFire]; exact this.1, by simp only [finishFire]; exact this.2.1, hp.2.2, this.2.2⟩

theorem finishFire_eqv {s t : State} (he : Eqv s t) (k : Key) (m : Mapping) (hks : k ∉ s.absorbed) (hkt : k ∉ t.absorbed) :
    Eqv (finishFire s k m) (finishFire t k m) ∧
    (addPhase3 s k m).2 = (addPhase3 t k m).2 ∧
    (addPhase4 (addPhase3 s k m).1 k m).2 = (addPhase4 (addPhase3 t k m).1 k m).2 := by
  have ax : t = TmVerif.withAux s t.absorbed t.absTrig t.repTrig := he.eq_withAux
  have a34 := addPhase34_aux s t.absorbed t.absTrig t.repTrig k m
  rw [← ax] at a34
  have fs := finishFire_ctl s k m
  have ft := finishFire_ctl t k m
  -- live of the finished states
  have hlive : ∀ (u : State), k ∉ u.absorbed →
      live (finishFire u k m) = addAbsorbed (live u) (m.absorbing.filter (fun x => (u.inp ++ [k]).contains x)) := by
    intro u hku
    have fu := finishFire_ctl u k m
    simp only [live, fu.1, fu.2.2.1]
    rw [addAbsorbed_filter]
    congr 1
    apply List.filter_congr
    intro x hx
    have : x ≠ k := fun e => hku (e ▸ hx)
    simp [this]
  refine ⟨⟨?_, ?_, a34.1.symm, a34.2.1.symm, ?_, ?_⟩, a34.2.2.1.symm, a34.2.2.2.symm⟩
  · rw [fs.1, ft.1, he.inp]
  · rw [fs.2.1, ft.2.1, he.active]
  · rw [hlive s hks, hlive t hkt, he.liveEq, he.inp]
  · intro hl
    rw [fs.2.2.2, ft.2.2.2]
    by_cases hm : m.absorbing.length > 0
    · simp [hm]
    · simp only [hm, if_false]
      apply he.trig
      have hnil : m.absorbing = [] := by
        cases hmm : m.absorbing with
        | nil => rfl
        | cons a l => simp [hmm] at hm
      rw [hlive s hks, hnil] at hl
      simpa [addAbsorbed] using hl


/-! ### one step on `Eqv` states -/

theorem newlyPress_fire_finish {L : Layout} {s : State} {k : Key} {m : Mapping} (hf : findMapping L s k = some m) :
    (newlyPress L s k).1 = finishFire (addPhase2 (afterConsume (pressPrep s k) m) k m).1 k m ∧
    (newlyPress L s k).2.events =
      (consume m (pressPrep s k).pass).2.2 ++ (addPhase2 (afterConsume (pressPrep s k) m) k m).2 ++
      (addPhase3 (addPhase2 (afterConsume (pressPrep s k) m) k m).1 k m).2 ++
      (addPhase4 (addPhase3 (addPhase2 (afterConsume (pressPrep s k) m) k m).1 k m).1 k m).2.1 ∧
    (newlyPress L s k).2.rep =
      (addPhase4 (addPhase3 (addPhase2 (afterConsume (pressPrep s k) m) k m).1 k m).1 k m).2.2 := by
  simp only [newlyPress, hf]; exact ⟨pushInp_addNewMapping _ k m, rfl, rfl⟩

/-- pushing a key that is not absorbed onto `inp` does not change the live keys -/
theorem live_pushInp (s : State) (k : Key) (hk : k ∉ s.absorbed) : live (pushInp s k) = live s := by
  simp only [live, pushInp_ctl]
  apply List.filter_congr
  intro x hx
  have : x ≠ k := fun e => hk (e ▸ hx)
  simp [this]

theorem pushInp_eqv {s t : State} (he : Eqv s t) (k : Key) (hs : k ∉ s.absorbed) (ht : k ∉ t.absorbed) :
    Eqv (pushInp s k) (pushInp t k) :=
  ⟨by simp [he.inp], he.active, he.pass, he.mapped, by rw [live_pushInp s k hs, live_pushInp t k ht, he.liveEq],
    fun hl => he.trig (live_pushInp s k hs ▸ hl)⟩

theorem passThrough_eqv {s t : State} (h : IInv [] s) (he : Eqv s t) (k : Key) :
    (passThrough s k).2 = (passThrough t k).2 ∧ Eqv (passThrough s k).1 (passThrough t k).1 := by
  have key : (passRel s k).2 = (passRel t k).2 ∧ Eqv (passRel s k).1 (passRel t k).1 := by
    unfold passRel; split
    · have r := ram_eqv he
      have q := releaseAbsorbedKeys_equiv (releaseActionMappings_spec h).1 r.1
      exact ⟨by rw [r.2, q.1], q.2⟩
    · exact ⟨rfl, he⟩
  rw [passThrough_eq, passThrough_eq, key.1]
  exact ⟨rfl, key.2.inp, key.2.active, by simp [key.2.pass], key.2.mapped, key.2.liveEq, key.2.trig⟩

theorem step_eqv (L : Layout) {s t : State} (h : IInv [] s) (he : Eqv s t) (e : Event) :
    (step L s e).2 = (step L t e).2 ∧ Eqv (step L s e).1 (step L t e).1 := by
  have hka (u : State) (k) : k ∉ (pressPrep u k).absorbed := by simp
  rcases step_cases L s e with ⟨hign, hs⟩ | ⟨k, rfl, hk, hs⟩ | ⟨k, m, rfl, hk, hf, hs⟩ | ⟨k, rfl, hk, hf, hn, hs⟩ |
    ⟨k, rfl, hk, hf, hn, hs⟩
  · rw [hs, step_ignored (by cases e <;> simpa [ignored, ← he.inp] using hign)]; exact ⟨rfl, he⟩
  · rw [hs, step_release (he.inp ▸ hk)]
    have hx : releaseKey t k = (TmVerif.withAux (releaseKey s k).1 t.absorbed t.absTrig t.repTrig, (releaseKey s k).2) := by
      conv => lhs; rw [he.eq_withAux]
      exact releaseKey_aux s _ _ _ k
    have hl := he.liveEq; have ht := he.trig
    simp only [live, ← he.inp] at hl ht
    have hf (a : List Key) : a.filter (fun x => (s.inp.filter (fun x => x != k)).contains x) =
        (a.filter (fun x => s.inp.contains x)).filter (fun x => x != k) := by
      rw [List.filter_filter]; apply List.filter_congr; intro x _
      by_cases h1 : x ∈ s.inp <;> by_cases h2 : x = k <;> simp [h1, h2]
    rw [hx]
    refine ⟨rfl, rfl, rfl, rfl, rfl, ?_, ?_⟩
    · simp only [live, withAux_absorbed, withAux_inp, releaseKey_ctl, hf, hl]
    · intro hne
      simp only [withAux_absTrig, releaseKey_ctl]
      apply ht; intro hnil; apply hne
      simp only [live, releaseKey_ctl, hf, hnil]; rfl
  · have he0 := pressPrep_eqv he k hk
    have hft : findMapping L t k = some m := findMapping_eqv L he k hk ▸ hf
    rw [hs, step_fire (he.inp ▸ hk) hft, pushInp_addNewMapping, pushInp_addNewMapping]
    have e1 := afterConsume_eqv he0 m
    have c1 := (consume_spec (pressPrep s k) m (pressPrep_iinv k h)).1
    have e2 := addPhase2_eqv c1 e1.1 k m fun x hx => ((mem_afterConsume _ m x).1.mp hx).2
    have e3 := finishFire_eqv e2.1 k m
      (fun hx => hka s k (addPhase2_absorbed_sub (afterConsume _ m) k m k hx))
      (fun hx => hka t k (addPhase2_absorbed_sub (afterConsume _ m) k m k hx))
    refine ⟨?_, e3.1⟩
    simp only [addNewMapping_eq, addPhase1_eq]
    rw [e1.2, e2.2, e3.2.1, e3.2.2]
  · have hft : findMapping L t k = none := findMapping_eqv L he k hk ▸ hf
    have hnt : noHit t k = true := by simpa [noHit, pressPrep, he.active, he.pass] using hn
    rw [hs, step_pass (he.inp ▸ hk) hft hnt]
    have p := passThrough_eqv (pressPrep_iinv k h) (pressPrep_eqv he k hk) k
    refine ⟨by rw [p.1], pushInp_eqv p.2 k ?_ ?_⟩ <;>
      exact fun hx => hka _ k (passThrough_absorbed_sub _ k k hx)
  · have hft : findMapping L t k = none := findMapping_eqv L he k hk ▸ hf
    have hnt : noHit t k = false := by simpa [noHit, pressPrep, he.active, he.pass] using hn
    rw [hs, step_skip (he.inp ▸ hk) hft hnt]
    exact ⟨rfl, pushInp_eqv (pressPrep_eqv he k hk) k (hka s k) (hka t k)⟩

/-- responses (events and repeat field) to a continuation, from `Eqv` states, coincide -/
theorem run_eqv (L : Layout) (P : List Key) {s t : State} (h : Inv L P s) (he : Eqv s t) (evs : List Event) :
    (run L s evs).2 = (run L t evs).2 := by
  induction evs generalizing s t P with
  | nil => rfl
  | cons e es ih =>
    simp only [run]
    have q := step_eqv L h.i he e
    rw [q.1]
    congr 1
    exact ih (applyEv P e) (step_inv L P s e h).1 q.2

end TmVerif
