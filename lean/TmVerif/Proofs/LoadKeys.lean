/-
Key names: every row of the generated key table (484 key codes) is read back by `parse_key_code`
from its serde name.  The reason: `parse_key_code` is `KeyCode::from_str` after a renaming of the
ten digit names (`variantFor`); a first-match lookup in a table whose keys are pairwise distinct
returns the row's own entry; the serde name of a row is its variant name, but for `K0`…`K9`.
What is evaluated on the regenerated table is linear in its size, but for the distinctness of the
variant names, which is checked by sorting.
-/
import TmVerif.Model.Keys

namespace TmVerif
open TmVerif.Tables

/-! ## first-match lookup in a table with pairwise distinct keys -/

theorem lookupVariantIn_of_mem {tbl : List (Nat × List Nat × List Nat)} (hnd : (tbl.map (·.2.1)).Nodup)
    {r : Nat × List Nat × List Nat} (hr : r ∈ tbl) : lookupVariantIn r.2.1 tbl = some r.1 := by
  induction tbl with
  | nil => cases hr
  | cons r' rest ih =>
    obtain ⟨d, v, s⟩ := r'
    rw [List.map_cons, List.nodup_cons] at hnd
    simp only [lookupVariantIn]
    rcases List.mem_cons.1 hr with rfl | hr
    · simp
    · rw [if_neg, ih hnd.2 hr]
      exact fun h => hnd.1 (List.mem_map.2 ⟨r, hr, (beq_iff_eq.1 h).symm⟩)

theorem serdeNameIn_of_mem {tbl : List (Nat × List Nat × List Nat)} (hnd : (tbl.map (·.1)).Nodup)
    {r : Nat × List Nat × List Nat} (hr : r ∈ tbl) : serdeNameIn r.1 tbl = some r.2.2 := by
  induction tbl with
  | nil => cases hr
  | cons r' rest ih =>
    obtain ⟨d, v, s⟩ := r'
    rw [List.map_cons, List.nodup_cons] at hnd
    simp only [serdeNameIn]
    rcases List.mem_cons.1 hr with rfl | hr
    · simp
    · rw [if_neg, ih hnd.2 hr]
      exact fun h => hnd.1 (List.mem_map.2 ⟨r, hr, (beq_iff_eq.1 h).symm⟩)

/-! ## distinctness by sorting

The `Decidable` instance of `List.Nodup` compares all pairs: on 484 entries that is 117 000
comparisons, some 20 s of the kernel.  Sorting first (about 10 000 steps) and checking that
neighbours ascend takes under a second.  `qsortBy` need not be shown to sort: it permutes, and the
check is on its result. -/

/-- adjacent elements strictly ascending -/
def ascending : List Nat → Bool
  | a :: b :: rest => Nat.blt a b && ascending (b :: rest)
  | _ => true

theorem pairwise_of_ascending : ∀ {l : List Nat}, ascending l = true → l.Pairwise (· < ·)
  | [], _ => List.Pairwise.nil
  | [a], _ => List.pairwise_singleton ..
  | a :: b :: rest, h => by
    simp only [ascending, Bool.and_eq_true, Nat.blt_eq] at h
    have ih := pairwise_of_ascending h.2
    refine List.pairwise_cons.2 ⟨fun c hc => ?_, ih⟩
    rcases List.mem_cons.1 hc with rfl | hc
    · exact h.1
    · exact Nat.lt_trans h.1 ((List.pairwise_cons.1 ih).1 c hc)

/-- quicksort by a numeric key, with fuel (out of fuel: the rest is left as it is) -/
def qsortBy {α : Type} (key : α → Nat) : Nat → List α → List α
  | n + 1, x :: xs =>
    qsortBy key n (xs.filter fun y => Nat.blt (key y) (key x)) ++
      x :: qsortBy key n (xs.filter fun y => !Nat.blt (key y) (key x))
  | _, l => l

theorem qsortBy_perm {α : Type} (key : α → Nat) : ∀ (n : Nat) (l : List α), (qsortBy key n l).Perm l
  | 0, _ => .refl _
  | _ + 1, [] => .refl _
  | n + 1, x :: xs =>
    (((qsortBy_perm key n _).append ((qsortBy_perm key n _).cons x)).trans List.perm_middle).trans
      ((List.filter_append_perm (fun y => Nat.blt (key y) (key x)) xs).cons x)

theorem nodup_of_ascending_qsort {n : Nat} {l : List Nat} (h : ascending (qsortBy id n l) = true) : l.Nodup :=
  (qsortBy_perm id n l).nodup_iff.1 ((pairwise_of_ascending h).imp Nat.ne_of_lt)

/-! ## the table -/

/-- the variant name `parse_key_code` looks up for a text -/
def variantFor : List Nat → Option (List Nat)
  | 64 :: _ => none
  | [48] => some [75, 48]
  | [49] => some [75, 49]
  | [50] => some [75, 50]
  | [51] => some [75, 51]
  | [52] => some [75, 52]
  | [53] => some [75, 53]
  | [54] => some [75, 54]
  | [55] => some [75, 55]
  | [56] => some [75, 56]
  | [57] => some [75, 57]
  | name => some name

theorem parseKeyCodeN_eq (name : List Nat) : parseKeyCodeN name = (variantFor name).bind lookupVariant := by
  unfold parseKeyCodeN
  split
  -- the last case: no pattern matches, neither here nor in `variantFor`
  case h_12 => rw [variantFor.eq_12 name] <;> first | rfl | assumption
  all_goals rfl

/-- a name as one number (base 128; one-to-one on ASCII names, which is not needed: if two names
had the same number, the check below would fail) -/
def nameCode : List Nat → Nat
  | [] => 0
  | c :: l => nameCode l * 128 + c + 1

/-- the key table is sorted by discriminant -/
theorem keyTable_ascending : ascending (keyTable.map (·.1)) = true := by decide +kernel

theorem keyTable_variants_nodup : (keyTable.map (·.2.1)).Nodup :=
  List.Pairwise.of_map nameCode (fun _ _ h hab => h (congrArg nameCode hab))
    (nodup_of_ascending_qsort (n := keyTable.length) (by decide +kernel))

/-- per row: the serde name is looked up under the row's variant name, and is ASCII -/
theorem keyTable_names :
    keyTable.all (fun r => variantFor r.2.2 == some r.2.1 && r.2.2.all (Nat.blt · 128)) = true := by
  decide +kernel

/-- every row `(discriminant, variant name, serde name)` of the key table: `parse_key_code` maps the
serde name to the discriminant, the discriminant's serde name is the row's, the serde name does not
start with `@` and is ASCII -/
theorem keyTable_row {r : Nat × List Nat × List Nat} (h : r ∈ keyTable) :
    parseKeyCodeN r.2.2 = some r.1 ∧ serdeNameN r.1 = some r.2.2 ∧ r.2.2.head? ≠ some 64 ∧
      ∀ c ∈ r.2.2, c < 128 := by
  have hn := List.all_eq_true.1 keyTable_names r h
  simp only [Bool.and_eq_true, beq_iff_eq, List.all_eq_true, Nat.blt_eq] at hn
  refine ⟨?_, serdeNameIn_of_mem ((pairwise_of_ascending keyTable_ascending).imp Nat.ne_of_lt) h, ?_, hn.2⟩
  · rw [parseKeyCodeN_eq, hn.1]
    exact lookupVariantIn_of_mem keyTable_variants_nodup h
  · intro h64
    obtain ⟨d, v, s⟩ := r
    cases s with
    | nil => cases h64
    | cons c s => cases Option.some.inj h64; simp [variantFor] at hn

end TmVerif
