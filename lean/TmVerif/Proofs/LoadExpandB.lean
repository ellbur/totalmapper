/-
C13_spec, layer B: row mappings.  The character loop of `convert_row` (indices, a repeat template,
`convert_row_to` called twice) computes the specification's "one mapping per non-space letter".
Consequence: `convert_row = expandRow`.
-/
import TmVerif.Proofs.LoadExpandA

namespace TmVerif
namespace Convert
open Outcome Fancy Expand TmVerif.Tables

theorem physicalRow_eq (r : Row) : physicalRow r = some (rowKeys r) := by
  cases r <;> decide

theorem charAccessIn_eq (n : Nat) (tbl : List (Nat × Bool × Nat)) :
    charAccessIn n tbl = (tbl.find? fun e => e.1 == n).map (·.2) := by
  induction tbl with
  | nil => rfl
  | cons e rest ih =>
    obtain ⟨ch, sh, k⟩ := e
    simp only [charAccessIn, List.find?_cons]
    by_cases h : ch = n
    · simp [h]
    · have h' : (ch == n) = false := by simpa using h
      simp [h', ih]

theorem charAccess_eq (c : Char) : charAccess c = charKey c := charAccessIn_eq _ _

/-- `convert_row_to` is "the keys that type the letter at position `i`" -/
theorem convertRowTo_eq (trig ms : List Key) (term : List Char) (i : Nat) :
    convertRowTo (findRightShift trig) ms term i =
      (match term[i]? with
       | none => ok none
       | some c => letterKeys trig ms c) := by
  unfold convertRowTo
  split
  · rename_i h
    rw [List.getElem?_eq_none (by omega)]
  · rename_i h
    have hi : i < term.length := by omega
    simp only [List.getElem?_eq_getElem hi, unwrapO_some, bind_ok, letterKeys, charAccess_eq]
    have hsp : (term[i].toNat == 32) = true ↔ term[i] = ' ' := by
      simp only [beq_iff_eq]
      constructor
      · intro h'; rw [← Char.ofNat_toNat term[i], h']
      · intro h'; rw [h']; rfl
    by_cases hc : term[i] = ' '
    · simp [hc]
    · have : ¬ (term[i].toNat == 32) = true := fun h' => hc (hsp.1 h')
      simp only [this, if_false, hc]
      cases charKey term[i] with
      | none => rfl
      | some p =>
        obtain ⟨sh, k⟩ := p
        simp only [shiftFor, findRightShift, RIGHTSHIFT, LEFTSHIFT]
        cases sh <;> simp <;> split <;> simp_all

/-- the repeat template of the model, as a function of the reified repeat modifiers -/
def templateOf : RowRepeat → List Key → RowRepeatTemplate
  | RowRepeat.normal, _ => RowRepeatTemplate.normal
  | RowRepeat.disabled, _ => RowRepeatTemplate.disabled
  | RowRepeat.special keys d i, rmods => RowRepeatTemplate.special rmods keys.terminal d i

theorem rowRepeatTemplate_eq {F : Fancy.Layout} {c : Comb} (hc : CombOK F c) {t : List Nat} (ht : TupleOK c t)
    (hamap : ∀ n, lookupAlias n c.aliasMap = lastIdx (slots c.modifiers) 0 n) (r : RowMapping)
    (hm : c.modifiers = r.frm.modifiers) :
    rowRepeatTemplate c t r = (rowRepeatMods r (pick c.found t)).bind fun rmods => ok (templateOf r.rep rmods) := by
  unfold rowRepeatTemplate rowRepeatMods
  cases hr : r.rep with
  | normal => rfl
  | disabled => rfl
  | special keys d i =>
    simp only [templateOf]
    split
    · rfl
    · rw [reifyModifiers_eq hc ht hamap, hm]

theorem rowRepeatAt_eq (trig rmods : List Key) (rep : RowRepeat) (i : Nat) :
    Convert.rowRepeatAt (findRightShift trig) (templateOf rep rmods) i = Expand.rowRepeatAt trig rmods rep i := by
  cases rep with
  | normal => rfl
  | disabled => rfl
  | special keys d iv =>
    simp only [Convert.rowRepeatAt, Expand.rowRepeatAt, templateOf, convertRowTo_eq]
    cases keys.terminal[i]? with
    | none => rfl
    | some c => rfl

/-- the character loop is the comprehension over (position, letter) -/
theorem rowCharLoop_eq {F : Fancy.Layout} {c : Comb} (hc : CombOK F c) {t : List Nat} (ht : TupleOK c t)
    (hamap : ∀ n, lookupAlias n c.aliasMap = lastIdx (slots c.modifiers) 0 n) (r : RowMapping)
    (hm : c.modifiers = r.frm.modifiers) (trig tm rmods : List Key) :
    ∀ (n i : Nat), i + n = r.to.terminal.length →
      rowCharLoop c t r trig tm (templateOf r.rep rmods) (rowKeys r.frm.row) (findRightShift trig) n i =
        (mapM (expandRowAt r (pick c.found t) trig tm rmods) ((List.range' i n).zip (r.to.terminal.drop i))).bind
          fun ms => ok ms.flatten := by
  intro n
  induction n with
  | zero => intro i _; simp [rowCharLoop, mapM]
  | succ n ih =>
    intro i hi
    have hlt : i < r.to.terminal.length := by omega
    have hdrop : r.to.terminal.drop i = r.to.terminal[i] :: r.to.terminal.drop (i + 1) :=
      List.drop_eq_getElem_cons hlt
    simp only [rowCharLoop, List.range'_succ, hdrop, List.zip_cons_cons, mapM, expandRowAt]
    rw [ih (i + 1) (by omega)]
    by_cases hp : i ≥ (rowKeys r.frm.row).length
    · simp only [hp, if_true]
      rw [List.getElem?_eq_none hp]
      rfl
    · have hp' : i < (rowKeys r.frm.row).length := by omega
      simp only [hp, if_false, List.getElem?_eq_getElem hp', convertRowTo_eq, List.getElem?_eq_getElem hlt,
        unwrapO_some, bind_ok, rowRepeatAt_eq, reifyModifiers_eq hc ht hamap, hm, bind_assoc]
      congr 1
      funext to
      cases to <;> simp only [bind_assoc, bind_ok, List.flatten_cons, List.nil_append, List.singleton_append]

/-- C13_spec for one row mapping -/
theorem convertRow_eq (F : Fancy.Layout) (r : RowMapping) : convertRow F r = expandRow F r := by
  unfold convertRow expandRow
  have hb := buildCombinations_eq F r.frm.modifiers
  cases hs : slotDefs F (slots r.frm.modifiers) with
  | none => rw [hs] at hb; simp [hb]
  | some ds =>
    rw [hs] at hb
    obtain ⟨amap, hb, hamap⟩ := hb
    have hc := combOK_of_slotDefs hs hamap
    simp only [hb, bind_ok, hc.multiply]
    congr 1
    refine mapM_tuples hc _ _ fun t ht => ?_
    unfold convertRowOne expandRowOne
    rw [fromModifiers_eq hc ht]
    simp only [bind_ok, reifyModifiers_eq hc ht hamap, rowRepeatTemplate_eq hc ht hamap r rfl, physicalRow_eq, ofOption,
      bind_assoc]
    congr 1
    funext tm
    congr 1
    funext rmods
    have := rowCharLoop_eq hc ht hamap r rfl (trigger r.frm.modifiers (pick ds t)) tm rmods
      r.to.terminal.length 0 (by omega)
    simpa only [List.drop_zero, ← List.range_eq_range'] using this

theorem convertAlias_eq (a : AliasMapping) : convertAlias a = expandAlias a := by
  unfold convertAlias expandAlias isJustOneModifier
  have hm : ∀ k, isModifierKey k = Expand.isModifier k := by
    intro k
    simp [isModifierKey, Expand.isModifier]
  cases hk : a.frm.keys with
  | nil => rfl
  | cons k ks =>
    cases ks with
    | nil =>
      simp only [hm]
      cases Expand.isModifier k <;> rfl
    | cons k2 ks => rfl

theorem convertMapping_eq (F : Fancy.Layout) (m : Fancy.Mapping) : convertMapping F m = expandMapping F m := by
  cases m with
  | alias a => simp only [convertMapping, expandMapping, convertAlias_eq]
  | single s => exact convertSingle_eq F s
  | row r => exact convertRow_eq F r
  | repeatOnly s => rfl

end Convert
end TmVerif
