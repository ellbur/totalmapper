/-
Histories: operations on the mapper (key events and release-all calls), the ghost summary of a history
(P = physically held, V = held on the virtual keyboard), reachability, and the observation record of a step.
Definitions only.
-/
import TmVerif.Monitors

namespace TmVerif

/-- one operation of the mapper's public API -/
inductive Op where
  | ev (e : Event)     -- Mapper::step
  | relAll             -- Mapper::release_all (tablet-mode change)
deriving DecidableEq, Repr

/-- mapper state plus the ghost summary of the history so far -/
structure Sys where
  P : List Key
  V : List Key
  s : State
deriving Repr

def Sys.init : Sys := ⟨[], [], State.init⟩

/-- outputs (events written to the virtual keyboard, and the repeat request for a step) of an operation -/
def Sys.out (L : Layout) (x : Sys) : Op → List Event
  | Op.ev e => (step L x.s e).2.events
  | Op.relAll => (releaseAll L x.s).2

def Sys.next (L : Layout) (x : Sys) : Op → Sys
  | Op.ev e => ⟨applyEv x.P e, foldEvs x.V (step L x.s e).2.events, (step L x.s e).1⟩
  | Op.relAll => ⟨x.P, foldEvs x.V (releaseAll L x.s).2, (releaseAll L x.s).1⟩

def Sys.run (L : Layout) (x : Sys) (ops : List Op) : Sys := ops.foldl (Sys.next L) x

/-- the concatenated output of a history -/
def Sys.outs (L : Layout) : Sys → List Op → List Event
  | _, [] => []
  | x, op :: ops => x.out L op ++ Sys.outs L (x.next L op) ops

/-- reachable from a fresh mapper by some history (with release-all calls interleaved) -/
def Reachable (L : Layout) (x : Sys) : Prop := ∃ ops, x = Sys.run L Sys.init ops

/-- the observation record of one step from a system state -/
def Sys.obs (L : Layout) (x : Sys) (e : Event) : Obs :=
  ⟨L, x.P, x.V, x.s, e, (step L x.s e).2.events, (step L x.s e).2.rep, (step L x.s e).1⟩

end TmVerif
