/-
Helper lemmas about event legality (`legal`) and the fold of events into a held-set (`foldEvs`).
`Emits V evs V'`: from held-set `V` the events are all legal and lead to a set with the members of `V'`.
-/
import TmVerif.Monitors

namespace TmVerif

@[simp] theorem mem_applyEv_pressed (H : List Key) (k x : Key) :
    x ∈ applyEv H (Event.pressed k) ↔ x ∈ H ∨ x = k := by
  simp only [applyEv]
  split
  · constructor
    · intro h; exact Or.inl h
    · rintro (h | h)
      · exact h
      · subst h; simp_all
  · simp

@[simp] theorem mem_applyEv_released (H : List Key) (k x : Key) :
    x ∈ applyEv H (Event.released k) ↔ x ∈ H ∧ x ≠ k := by
  simp [applyEv]

theorem mem_applyEv_congr {V W : List Key} (h : ∀ k, k ∈ V ↔ k ∈ W) (e : Event) (x : Key) :
    x ∈ applyEv V e ↔ x ∈ applyEv W e := by
  cases e <;> simp [h]

theorem mem_foldEvs_congr {V W : List Key} (h : ∀ k, k ∈ V ↔ k ∈ W) (evs : List Event) (x : Key) :
    x ∈ foldEvs V evs ↔ x ∈ foldEvs W evs := by
  induction evs generalizing V W with
  | nil => simpa [foldEvs] using h x
  | cons e es ih =>
    simp only [foldEvs, List.foldl_cons] at *
    exact ih (fun k => mem_applyEv_congr h e k)

@[simp] theorem foldEvs_nil (V : List Key) : foldEvs V [] = V := rfl

@[simp] theorem foldEvs_cons (V : List Key) (e : Event) (es : List Event) :
    foldEvs V (e :: es) = foldEvs (applyEv V e) es := rfl

theorem foldEvs_append (V : List Key) (a b : List Event) :
    foldEvs V (a ++ b) = foldEvs (foldEvs V a) b := by
  simp [foldEvs, List.foldl_append]

theorem contains_congr {V W : List Key} (h : ∀ k, k ∈ V ↔ k ∈ W) (k : Key) :
    V.contains k = W.contains k := by
  have := h k
  by_cases h1 : k ∈ V
  · have h2 := this.mp h1; simp [h1, h2]
  · have h2 : k ∉ W := fun h3 => h1 (this.mpr h3); simp [h1, h2]

theorem legal_congr {V W : List Key} (h : ∀ k, k ∈ V ↔ k ∈ W) (evs : List Event) :
    legal V evs = legal W evs := by
  induction evs generalizing V W with
  | nil => rfl
  | cons e es ih =>
    cases e with
    | pressed k =>
      simp only [legal, contains_congr h k]
      congr 1
      apply ih; intro x; simp [h]
    | released k =>
      simp only [legal, contains_congr h k]
      congr 1
      apply ih; intro x; simp [h]

theorem legal_cons_eq (V : List Key) (e : Event) (es : List Event) :
    legal V (e :: es) = (legal V [e] && legal (applyEv V e) es) := by
  cases e with
  | pressed k =>
    by_cases hk : k ∈ V
    · simp [legal, hk]
    · simp only [legal, Bool.and_true]
      congr 1
      apply legal_congr; intro x; simp
  | released k =>
    simp only [legal, Bool.and_true]
    congr 1

theorem legal_append (V : List Key) (a b : List Event) :
    legal V (a ++ b) = (legal V a && legal (foldEvs V a) b) := by
  induction a generalizing V with
  | nil => simp [legal]
  | cons e es ih =>
    rw [List.cons_append, legal_cons_eq, ih, legal_cons_eq V e es, foldEvs_cons, Bool.and_assoc]

/-- a legal run of releases only lifts keys that are down, and leaves no key down that was not -/
theorem legal_releases {V : List Key} {evs : List Event} (hl : legal V evs = true)
    (hr : ∀ e, e ∈ evs → e.isRelease = true) :
    (∀ k, Event.released k ∈ evs → k ∈ V) ∧ ∀ k, k ∈ foldEvs V evs → k ∈ V := by
  induction evs generalizing V with
  | nil => exact ⟨by simp, fun _ h => h⟩
  | cons e es ih =>
    cases e with
    | pressed k => simpa [Event.isRelease] using hr (Event.pressed k)
    | released k =>
      simp only [legal, Bool.and_eq_true, List.contains_eq_mem, decide_eq_true_eq] at hl
      have h := ih hl.2 fun e he => hr e (List.mem_cons_of_mem _ he)
      refine ⟨fun x hx => ?_, fun x hx => (List.mem_filter.mp (h.2 x hx)).1⟩
      rcases List.mem_cons.mp hx with hx | hx
      · cases hx; exact hl.1
      · exact (List.mem_filter.mp (h.1 x hx)).1

/-- a key that is down at the end was down at the start or has been pressed -/
theorem mem_foldEvs {V : List Key} {evs : List Event} {x : Key} (h : x ∈ foldEvs V evs) :
    x ∈ V ∨ Event.pressed x ∈ evs := by
  induction evs generalizing V with
  | nil => exact Or.inl h
  | cons e es ih =>
    rcases ih h with h1 | h1
    · cases e with
      | pressed k => rw [mem_applyEv_pressed] at h1; rcases h1 with h1 | h1 <;> simp [h1]
      | released k => exact Or.inl ((mem_applyEv_released _ _ _).mp h1).1
    · exact Or.inr (List.mem_cons_of_mem _ h1)

/-- From held-set `V`, `evs` are legal and end in a set with exactly the members of `V'`. -/
def Emits (V : List Key) (evs : List Event) (V' : List Key) : Prop :=
  legal V evs = true ∧ ∀ k, k ∈ foldEvs V evs ↔ k ∈ V'

theorem Emits.nil {V V' : List Key} (h : ∀ k, k ∈ V ↔ k ∈ V') : Emits V [] V' :=
  ⟨rfl, by simpa using h⟩

theorem Emits.refl (V : List Key) : Emits V [] V := Emits.nil fun _ => Iff.rfl

theorem Emits.trans {V V1 V2 : List Key} {a b : List Event}
    (h1 : Emits V a V1) (h2 : Emits V1 b V2) : Emits V (a ++ b) V2 := by
  refine ⟨?_, ?_⟩
  · rw [legal_append, h1.1, Bool.true_and, legal_congr h1.2]; exact h2.1
  · intro k; rw [foldEvs_append, mem_foldEvs_congr h1.2]; exact h2.2 k

theorem Emits.congr_left {V W V' : List Key} {evs : List Event}
    (h : ∀ k, k ∈ V ↔ k ∈ W) (h1 : Emits V evs V') : Emits W evs V' :=
  ⟨by rw [← legal_congr h]; exact h1.1, fun k => by rw [← mem_foldEvs_congr h]; exact h1.2 k⟩

theorem Emits.congr_right {V V' W' : List Key} {evs : List Event}
    (h : ∀ k, k ∈ V' ↔ k ∈ W') (h1 : Emits V evs V') : Emits V evs W' :=
  ⟨h1.1, fun k => (h1.2 k).trans (h k)⟩

theorem Emits.release {V V' : List Key} {k : Key} (hk : k ∈ V)
    (h : ∀ x, x ∈ V' ↔ x ∈ V ∧ x ≠ k) : Emits V [Event.released k] V' := by
  refine ⟨by simp [legal, hk], ?_⟩
  intro x; simp [h]

theorem Emits.press {V V' : List Key} {k : Key} (hk : k ∉ V)
    (h : ∀ x, x ∈ V' ↔ x ∈ V ∨ x = k) : Emits V [Event.pressed k] V' := by
  refine ⟨by simp [legal, hk], ?_⟩
  intro x; simp [h]

/-- tapping a key that is down: released and pressed again -/
theorem Emits.tap {V V' : List Key} {k : Key} (hk : k ∈ V) (h : ∀ x, x ∈ V' ↔ x ∈ V) :
    Emits V [Event.released k, Event.pressed k] V' :=
  (Emits.release (V' := V.filter (· != k)) hk (by simp)).trans
    (Emits.press (by simp) (by intro x; rw [h]; by_cases hx : x = k <;> simp [hx, hk]))

/-- releasing a duplicate-free list of held keys -/
theorem Emits.releases {V V' : List Key} {ks : List Key} (hnd : ks.Nodup) (hsub : ∀ k ∈ ks, k ∈ V)
    (h : ∀ x, x ∈ V' ↔ x ∈ V ∧ x ∉ ks) : Emits V (ks.map Event.released) V' := by
  induction ks generalizing V with
  | nil => exact Emits.nil (by simpa using fun x => (h x).symm)
  | cons k ks ih =>
    rw [List.map_cons, ← List.singleton_append]
    have hnd' := List.nodup_cons.mp hnd
    apply Emits.trans (V1 := V.filter (fun x => x != k))
    · apply Emits.release (hsub k (by simp))
      intro x; simp
    · apply ih hnd'.2
      · intro x hx
        have : x ≠ k := fun e => hnd'.1 (e ▸ hx)
        simp [hsub x (by simp [hx]), this]
      · intro x; rw [h x]; simp [and_assoc]

end TmVerif
