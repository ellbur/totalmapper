/-
Lemmas about the loop model (`Model/Loop.lean`): the ghost account of what the loop has read and
sent, the arms of `advance` (`Adv`: the one place where control point × answer is taken apart), and
the invariant tying the loop's mapper to the mapper run over the operations read.
-/
import TmVerif.Proofs.Reach
import TmVerif.Model.Loop

namespace TmVerif

/-- the machine is blocked on a `send` -/
def Ctl.isSend : Ctl → Bool
  | Ctl.sendChord _ => true
  | Ctl.sendStep _ _ _ => true
  | Ctl.sendRel _ _ => true
  | _ => false

/-- the machine is about to wait (top of the loop: clock read for the timeout, or `poll` itself) -/
def Ctl.isPollTop : Ctl → Bool
  | Ctl.pollNow => true
  | Ctl.polling _ => true
  | _ => false

/-- payload of a pending step / release-all send -/
def Ctl.pendingOut : Ctl → List (List Event)
  | Ctl.sendStep _ evs _ => [evs]
  | Ctl.sendRel _ evs => [evs]
  | _ => []

/-- ghost account: the mapper operations the loop has performed for what it read, and the payloads
of the step / release-all sends it has completed -/
structure Ghost where
  ops : List Op
  sent : List (List Event)
deriving Repr

def Ghost.init : Ghost := ⟨[], []⟩

/-- what one answer adds to the account -/
def ghostStep (x : Machine) (r : Resp) (g : Ghost) : Ghost :=
  match x.c, r with
  | Ctl.readKbd _, Resp.kbd (Next.one ev) => if x.v.inTablet then g else { g with ops := g.ops ++ [Op.ev ev] }
  | Ctl.readTab _, Resp.tab (Next.one _) => { g with ops := g.ops ++ [Op.relAll] }
  | Ctl.sendStep _ evs _, Resp.unit => { g with sent := g.sent ++ [evs] }
  | Ctl.sendRel _ evs, Resp.unit => { g with sent := g.sent ++ [evs] }
  | _, _ => g

/-- the non-empty outputs of the mapper over a list of operations, one entry per operation -/
def nonEmptyOuts (L : Layout) : Sys → List Op → List (List Event)
  | _, [] => []
  | x, op :: ops =>
    (if (x.out L op).isEmpty then [] else [x.out L op]) ++ nonEmptyOuts L (x.next L op) ops

theorem nonEmptyOuts_append (L : Layout) (x : Sys) (a b : List Op) :
    nonEmptyOuts L x (a ++ b) = nonEmptyOuts L x a ++ nonEmptyOuts L (x.run L a) b := by
  induction a generalizing x with
  | nil => rfl
  | cons op ops ih => simp [nonEmptyOuts, ih, Sys.run, List.append_assoc]

theorem run_append (L : Layout) (x : Sys) (a b : List Op) :
    x.run L (a ++ b) = (x.run L a).run L b := by
  simp [Sys.run, List.foldl_append]

/-- the loop invariant: the loop's mapper is the mapper run over the operations read, and the
completed sends plus the pending one are exactly the non-empty outputs of those operations -/
structure LoopInv (L : Layout) (x : Machine) (g : Ghost) : Prop where
  mapper : x.v.m = (Sys.run L Sys.init g.ops).s
  sends : (∃ msg, x.c = Ctl.done (some msg)) ∨ g.sent ++ x.c.pendingOut = nonEmptyOuts L Sys.init g.ops
  prefix_ : ∃ t, g.sent ++ t = nonEmptyOuts L Sys.init g.ops
  okctl : x.c ≠ Ctl.bad

/-! ### the three joints of `advance`

`↓`: these fire before a classifier handed to `simp` is unfolded, so that `simp [Ctl.pendingOut]` evaluates the
classifier on a literal control point and on a joint alike. -/

@[simp ↓] theorem toPollTop_pendingOut (v : LoopVars) : (toPollTop v).c.pendingOut = [] ∧ (toPollTop v).v = v ∧
    (toPollTop v).c ≠ Ctl.bad ∧ (toPollTop v).c.isSend = false ∧ (toPollTop v).c.isPollTop = true := by
  unfold toPollTop; cases v.rep <;> simp [Ctl.pendingOut, Ctl.isSend, Ctl.isPollTop]

@[simp ↓] theorem drain_pendingOut (v : LoopVars) (devs : List Dev) : (drain v devs).c.pendingOut = [] ∧ (drain v devs).v = v ∧
    (drain v devs).c ≠ Ctl.bad ∧ (drain v devs).c.isSend = false := by
  cases devs with
  | nil => simp [drain]
  | cons d rest => cases d <;> simp [drain, Ctl.pendingOut, Ctl.isSend]

@[simp ↓] theorem afterStep_pendingOut (v : LoopVars) (rest : List Dev) (rr : RRepeat) :
    (afterStep v rest rr).c.pendingOut = [] ∧ (afterStep v rest rr).v.m = v.m ∧
    (afterStep v rest rr).c ≠ Ctl.bad ∧ (afterStep v rest rr).c.isSend = false ∧
    (afterStep v rest rr).v.inTablet = v.inTablet := by
  cases rr <;> simp [afterStep, Ctl.pendingOut, Ctl.isSend]

theorem Machine.init_eq {L : Layout} {x : Machine} (h : Machine.init L = some x) :
    x = ⟨⟨State.init, WorkingRepeat.idle, false, 0⟩, Ctl.start⟩ := by
  unfold Machine.init forLayout at h
  split at h <;> simp_all

theorem LoopInv.init {L : Layout} {x : Machine} (h : Machine.init L = some x) : LoopInv L x Ghost.init := by
  cases Machine.init_eq h
  exact ⟨rfl, Or.inr rfl, ⟨[], rfl⟩, by simp⟩

/-! ### `advance`, case by case (each is the corresponding arm of the Rust loop) -/

section adv
variable (L : Layout) (v : LoopVars)

theorem adv_start : advance L ⟨v, Ctl.start⟩ Resp.unit = toPollTop v := rfl
theorem adv_sendChord (evs : List Event) : advance L ⟨v, Ctl.sendChord evs⟩ Resp.unit = toPollTop v := rfl
theorem adv_sleeping (ms : Nat) : advance L ⟨v, Ctl.sleeping ms⟩ Resp.unit = toPollTop v := rfl
theorem adv_sendStep (rest : List Dev) (evs : List Event) (rr : RRepeat) :
    advance L ⟨v, Ctl.sendStep rest evs rr⟩ Resp.unit = afterStep v rest rr := rfl
theorem adv_sendRel (rest : List Dev) (evs : List Event) :
    advance L ⟨v, Ctl.sendRel rest evs⟩ Resp.unit = ⟨v, Ctl.readTab rest⟩ := rfl
theorem adv_stepNow (rest : List Dev) (keys : List Key) (d i : Int) (now : Nat) :
    advance L ⟨v, Ctl.stepNow rest keys d i⟩ (Resp.time now) =
      ⟨{ v with rep := WorkingRepeat.repeating keys (now + msToNs (asU64 d)) i }, Ctl.readKbd rest⟩ := rfl
/- the arms that depend on `v.rep` / `v.inTablet`: with `v` taken apart and the hypothesis substituted
both sides compute to the same term (unfolding `advance` by `simp` is much slower to check) -/
theorem adv_pollNow {keys : List Key} {nw : Nat} {iv : Int} (h : v.rep = WorkingRepeat.repeating keys nw iv) (now : Nat) :
    advance L ⟨v, Ctl.pollNow⟩ (Resp.time now) =
      ⟨v, Ctl.polling (some (if now ≥ nw then msToNs 1 else nw - now))⟩ := by
  cases v; cases h; rfl
theorem adv_pollNow_idle (h : v.rep = WorkingRepeat.idle) (now : Nat) :
    advance L ⟨v, Ctl.pollNow⟩ (Resp.time now) = ⟨v, Ctl.bad⟩ := by
  cases v; cases h; rfl
theorem adv_timedOut_idle (h : v.rep = WorkingRepeat.idle) (t : Option Nat) :
    advance L ⟨v, Ctl.polling t⟩ (Resp.poll PollRes.timedOut) = toPollTop v := by
  cases v; cases h; rfl
theorem adv_timedOut_tablet {keys : List Key} {nw : Nat} {iv : Int} (h : v.rep = WorkingRepeat.repeating keys nw iv)
    (ht : v.inTablet = true) (t : Option Nat) :
    advance L ⟨v, Ctl.polling t⟩ (Resp.poll PollRes.timedOut) = toPollTop { v with rep := WorkingRepeat.idle } := by
  cases v; cases h; cases ht; rfl
theorem adv_timedOut_chord {keys : List Key} {nw : Nat} {iv : Int} (h : v.rep = WorkingRepeat.repeating keys nw iv)
    (ht : v.inTablet = false) (t : Option Nat) :
    advance L ⟨v, Ctl.polling t⟩ (Resp.poll PollRes.timedOut) =
      if (chordOf v.m keys).isEmpty
      then toPollTop { v with rep := WorkingRepeat.repeating keys (nw + msToNs (asU64 iv)) iv }
      else ⟨{ v with rep := WorkingRepeat.repeating keys (nw + msToNs (asU64 iv)) iv }, Ctl.sendChord (chordOf v.m keys)⟩ := by
  cases v; cases h; cases ht; rfl
theorem adv_interrupted (t : Option Nat) :
    advance L ⟨v, Ctl.polling t⟩ (Resp.poll PollRes.interrupted) =
      if v.restartCount + 1 > 1
      then ⟨{ v with restartCount := v.restartCount + 1 }, Ctl.sleeping (1000 * 2 ^ (v.restartCount + 1))⟩
      else toPollTop { v with restartCount := v.restartCount + 1 } := rfl
theorem adv_deviceEvent (t : Option Nat) (devs : List Dev) :
    advance L ⟨v, Ctl.polling t⟩ (Resp.poll (PollRes.deviceEvent devs)) = drain { v with restartCount := 0 } devs := rfl
theorem adv_kbd_busy (rest : List Dev) : advance L ⟨v, Ctl.readKbd rest⟩ (Resp.kbd Next.busy) = drain v rest := rfl
theorem adv_kbd_end (rest : List Dev) : advance L ⟨v, Ctl.readKbd rest⟩ (Resp.kbd Next.end_) = ⟨v, Ctl.done none⟩ := rfl
theorem adv_kbd_one_tablet (ht : v.inTablet = true) (rest : List Dev) (ev : Event) :
    advance L ⟨v, Ctl.readKbd rest⟩ (Resp.kbd (Next.one ev)) = ⟨v, Ctl.readKbd rest⟩ := by
  cases v; cases ht; rfl
theorem adv_kbd_one (ht : v.inTablet = false) (rest : List Dev) (ev : Event) :
    advance L ⟨v, Ctl.readKbd rest⟩ (Resp.kbd (Next.one ev)) =
      if (step L v.m ev).2.events.isEmpty
      then afterStep { v with m := (step L v.m ev).1 } rest (step L v.m ev).2.rep
      else ⟨{ v with m := (step L v.m ev).1 }, Ctl.sendStep rest (step L v.m ev).2.events (step L v.m ev).2.rep⟩ := by
  cases v; cases ht; rfl
theorem adv_tab_busy (rest : List Dev) : advance L ⟨v, Ctl.readTab rest⟩ (Resp.tab Next.busy) = drain v rest := rfl
theorem adv_tab_end (rest : List Dev) : advance L ⟨v, Ctl.readTab rest⟩ (Resp.tab Next.end_) = ⟨v, Ctl.done none⟩ := rfl
theorem adv_tab_one (rest : List Dev) (tev : TabletEv) :
    advance L ⟨v, Ctl.readTab rest⟩ (Resp.tab (Next.one tev)) =
      if (releaseAll L v.m).2.isEmpty
      then ⟨{ v with m := (releaseAll L v.m).1, rep := WorkingRepeat.idle,
                     inTablet := (match tev with | TabletEv.on => true | TabletEv.off => false) }, Ctl.readTab rest⟩
      else ⟨{ v with m := (releaseAll L v.m).1, rep := WorkingRepeat.idle,
                     inTablet := (match tev with | TabletEv.on => true | TabletEv.off => false) },
            Ctl.sendRel rest (releaseAll L v.m).2⟩ := rfl

end adv

/-- the pending call is a `Driver` method (not the clock, not `thread::sleep`, not finished) -/
def Ctl.isDriverCall : Ctl → Bool
  | Ctl.start => true
  | Ctl.polling _ => true
  | Ctl.sendChord _ => true
  | Ctl.readKbd _ => true
  | Ctl.sendStep _ _ _ => true
  | Ctl.readTab _ => true
  | Ctl.sendRel _ _ => true
  | _ => false

theorem adv_err (L : Layout) (v : LoopVars) (c : Ctl) (hc : c.isDriverCall = true) (msg : String) :
    advance L ⟨v, c⟩ (Resp.err msg) = ⟨v, Ctl.done (some msg)⟩ := by
  cases c <;> simp [Ctl.isDriverCall] at hc <;> rfl

/-! ### the arms of the loop -/

/-- `Adv L x r y`: the answer `r` to the call `x` is blocked on takes the loop to `y`, one constructor per
path through the body of the Rust loop.  Every answer that does not lead to `bad` is one of them
(`advance_arm`); a proof about all answers is a `cases` on this. -/
inductive Adv (L : Layout) : Machine → Resp → Machine → Prop where
  | err (v : LoopVars) (c : Ctl) (msg : String) (hc : c.isDriverCall = true) :
      Adv L ⟨v, c⟩ (Resp.err msg) ⟨v, Ctl.done (some msg)⟩
  | start (v : LoopVars) : Adv L ⟨v, Ctl.start⟩ Resp.unit (toPollTop v)
  | pollNow (v : LoopVars) (keys : List Key) (nw : Nat) (iv : Int) (now : Nat)
      (h : v.rep = WorkingRepeat.repeating keys nw iv) :
      Adv L ⟨v, Ctl.pollNow⟩ (Resp.time now) ⟨v, Ctl.polling (some (if now ≥ nw then msToNs 1 else nw - now))⟩
  | timedOutIdle (v : LoopVars) (t : Option Nat) (h : v.rep = WorkingRepeat.idle) :
      Adv L ⟨v, Ctl.polling t⟩ (Resp.poll PollRes.timedOut) (toPollTop v)
  | timedOutTablet (v : LoopVars) (t : Option Nat) (keys : List Key) (nw : Nat) (iv : Int)
      (h : v.rep = WorkingRepeat.repeating keys nw iv) (hit : v.inTablet = true) :
      Adv L ⟨v, Ctl.polling t⟩ (Resp.poll PollRes.timedOut) (toPollTop { v with rep := WorkingRepeat.idle })
  | timedOutQuiet (v : LoopVars) (t : Option Nat) (keys : List Key) (nw : Nat) (iv : Int)
      (h : v.rep = WorkingRepeat.repeating keys nw iv) (hit : v.inTablet = false)
      (hemp : (chordOf v.m keys).isEmpty = true) :
      Adv L ⟨v, Ctl.polling t⟩ (Resp.poll PollRes.timedOut)
        (toPollTop { v with rep := WorkingRepeat.repeating keys (nw + msToNs (asU64 iv)) iv })
  | timedOutChord (v : LoopVars) (t : Option Nat) (keys : List Key) (nw : Nat) (iv : Int)
      (h : v.rep = WorkingRepeat.repeating keys nw iv) (hit : v.inTablet = false)
      (hemp : (chordOf v.m keys).isEmpty = false) :
      Adv L ⟨v, Ctl.polling t⟩ (Resp.poll PollRes.timedOut)
        ⟨{ v with rep := WorkingRepeat.repeating keys (nw + msToNs (asU64 iv)) iv }, Ctl.sendChord (chordOf v.m keys)⟩
  | interruptedSleep (v : LoopVars) (t : Option Nat) (h : v.restartCount + 1 > 1) :
      Adv L ⟨v, Ctl.polling t⟩ (Resp.poll PollRes.interrupted)
        ⟨{ v with restartCount := v.restartCount + 1 }, Ctl.sleeping (1000 * 2 ^ (v.restartCount + 1))⟩
  | interruptedTop (v : LoopVars) (t : Option Nat) (h : ¬ v.restartCount + 1 > 1) :
      Adv L ⟨v, Ctl.polling t⟩ (Resp.poll PollRes.interrupted) (toPollTop { v with restartCount := v.restartCount + 1 })
  | deviceEvent (v : LoopVars) (t : Option Nat) (devs : List Dev) :
      Adv L ⟨v, Ctl.polling t⟩ (Resp.poll (PollRes.deviceEvent devs)) (drain { v with restartCount := 0 } devs)
  | sendChord (v : LoopVars) (evs : List Event) : Adv L ⟨v, Ctl.sendChord evs⟩ Resp.unit (toPollTop v)
  | sleeping (v : LoopVars) (ms : Nat) : Adv L ⟨v, Ctl.sleeping ms⟩ Resp.unit (toPollTop v)
  | kbdBusy (v : LoopVars) (rest : List Dev) : Adv L ⟨v, Ctl.readKbd rest⟩ (Resp.kbd Next.busy) (drain v rest)
  | kbdEnd (v : LoopVars) (rest : List Dev) : Adv L ⟨v, Ctl.readKbd rest⟩ (Resp.kbd Next.end_) ⟨v, Ctl.done none⟩
  | kbdOneTablet (v : LoopVars) (rest : List Dev) (ev : Event) (hit : v.inTablet = true) :
      Adv L ⟨v, Ctl.readKbd rest⟩ (Resp.kbd (Next.one ev)) ⟨v, Ctl.readKbd rest⟩
  | kbdOneQuiet (v : LoopVars) (rest : List Dev) (ev : Event) (hit : v.inTablet = false)
      (hemp : (step L v.m ev).2.events.isEmpty = true) :
      Adv L ⟨v, Ctl.readKbd rest⟩ (Resp.kbd (Next.one ev))
        (afterStep { v with m := (step L v.m ev).1 } rest (step L v.m ev).2.rep)
  | kbdOneSend (v : LoopVars) (rest : List Dev) (ev : Event) (hit : v.inTablet = false)
      (hemp : (step L v.m ev).2.events.isEmpty = false) :
      Adv L ⟨v, Ctl.readKbd rest⟩ (Resp.kbd (Next.one ev))
        ⟨{ v with m := (step L v.m ev).1 }, Ctl.sendStep rest (step L v.m ev).2.events (step L v.m ev).2.rep⟩
  | sendStep (v : LoopVars) (rest : List Dev) (evs : List Event) (rr : RRepeat) :
      Adv L ⟨v, Ctl.sendStep rest evs rr⟩ Resp.unit (afterStep v rest rr)
  | stepNow (v : LoopVars) (rest : List Dev) (keys : List Key) (d i : Int) (now : Nat) :
      Adv L ⟨v, Ctl.stepNow rest keys d i⟩ (Resp.time now)
        ⟨{ v with rep := WorkingRepeat.repeating keys (now + msToNs (asU64 d)) i }, Ctl.readKbd rest⟩
  | tabBusy (v : LoopVars) (rest : List Dev) : Adv L ⟨v, Ctl.readTab rest⟩ (Resp.tab Next.busy) (drain v rest)
  | tabEnd (v : LoopVars) (rest : List Dev) : Adv L ⟨v, Ctl.readTab rest⟩ (Resp.tab Next.end_) ⟨v, Ctl.done none⟩
  | tabOneQuiet (v : LoopVars) (rest : List Dev) (tev : TabletEv) (hemp : (releaseAll L v.m).2.isEmpty = true) :
      Adv L ⟨v, Ctl.readTab rest⟩ (Resp.tab (Next.one tev))
        ⟨{ v with m := (releaseAll L v.m).1, rep := WorkingRepeat.idle,
                  inTablet := (match tev with | TabletEv.on => true | TabletEv.off => false) }, Ctl.readTab rest⟩
  | tabOneSend (v : LoopVars) (rest : List Dev) (tev : TabletEv) (hemp : (releaseAll L v.m).2.isEmpty = false) :
      Adv L ⟨v, Ctl.readTab rest⟩ (Resp.tab (Next.one tev))
        ⟨{ v with m := (releaseAll L v.m).1, rep := WorkingRepeat.idle,
                  inTablet := (match tev with | TabletEv.on => true | TabletEv.off => false) },
         Ctl.sendRel rest (releaseAll L v.m).2⟩
  | sendRel (v : LoopVars) (rest : List Dev) (evs : List Event) :
      Adv L ⟨v, Ctl.sendRel rest evs⟩ Resp.unit ⟨v, Ctl.readTab rest⟩

/-- the answer has the type the pending driver call expects (`Err` fits every driver call) -/
def wellTyped : Ctl → Resp → Bool
  | Ctl.start, Resp.unit => true
  | Ctl.polling _, Resp.poll _ => true
  | Ctl.sendChord _, Resp.unit => true
  | Ctl.readKbd _, Resp.kbd _ => true
  | Ctl.sendStep _ _ _, Resp.unit => true
  | Ctl.readTab _, Resp.tab _ => true
  | Ctl.sendRel _ _, Resp.unit => true
  | c, Resp.err _ => c.isDriverCall
  | _, _ => false

/-- every answer is an arm, or leads to `bad`: the answer is ill-typed for the pending call (which a real
driver cannot produce), or it is the clock read at the top of the loop with no repeat armed (which the
loop never makes) -/
theorem advance_arm (L : Layout) (x : Machine) (r : Resp) :
    Adv L x r (advance L x r) ∨ (advance L x r = ⟨x.v, Ctl.bad⟩ ∧ wellTyped x.c r = false) := by
  obtain ⟨v, c⟩ := x
  -- ill-typed pairs compute to `bad`, a failure of a driver call computes to the `err` arm
  cases c <;> cases r <;> first | exact Or.inr ⟨rfl, rfl⟩ | exact Or.inl (.err v _ _ rfl) | skip
  · exact Or.inl (.start v)
  · cases hrep : v.rep with
    | idle => exact Or.inr ⟨adv_pollNow_idle L v hrep _, rfl⟩
    | repeating keys nw iv => rw [adv_pollNow L v hrep]; exact Or.inl (.pollNow v keys nw iv _ hrep)
  · rename_i t pr
    refine Or.inl ?_
    cases pr with
    | deviceEvent devs => exact .deviceEvent v t devs
    | interrupted =>
      rw [adv_interrupted]
      split
      · exact .interruptedSleep v t ‹_›
      · exact .interruptedTop v t ‹_›
    | timedOut =>
      cases hrep : v.rep with
      | idle => rw [adv_timedOut_idle L v hrep]; exact .timedOutIdle v t hrep
      | repeating keys nw iv =>
        cases hit : v.inTablet with
        | true => rw [adv_timedOut_tablet L v hrep hit]; exact .timedOutTablet v t keys nw iv hrep hit
        | false =>
          rw [adv_timedOut_chord L v hrep hit]
          cases hemp : (chordOf v.m keys).isEmpty with
          | true => exact .timedOutQuiet v t keys nw iv hrep hit hemp
          | false => exact .timedOutChord v t keys nw iv hrep hit hemp
  · exact Or.inl (.sendChord v _)
  · exact Or.inl (.sleeping v _)
  · rename_i rest n
    refine Or.inl ?_
    cases n with
    | busy => exact .kbdBusy v rest
    | end_ => exact .kbdEnd v rest
    | one ev =>
      cases hit : v.inTablet with
      | true => rw [adv_kbd_one_tablet L v hit]; exact .kbdOneTablet v rest ev hit
      | false =>
        rw [adv_kbd_one L v hit]
        cases hemp : (step L v.m ev).2.events.isEmpty with
        | true => exact .kbdOneQuiet v rest ev hit hemp
        | false => exact .kbdOneSend v rest ev hit hemp
  · exact Or.inl (.sendStep v _ _ _)
  · exact Or.inl (.stepNow v _ _ _ _ _)
  · rename_i rest n
    refine Or.inl ?_
    cases n with
    | busy => exact .tabBusy v rest
    | end_ => exact .tabEnd v rest
    | one tev =>
      rw [adv_tab_one]
      cases hemp : (releaseAll L v.m).2.isEmpty with
      | true => exact .tabOneQuiet v rest tev hemp
      | false => exact .tabOneSend v rest tev hemp
  · exact Or.inl (.sendRel v _ _)

theorem Adv.of_ne_bad {L : Layout} {x : Machine} {r : Resp} (hok : (advance L x r).c ≠ Ctl.bad) :
    Adv L x r (advance L x r) :=
  (advance_arm L x r).resolve_right fun h => hok (by rw [h.1])

/-- the mapper and the tablet flag change only when an event is read: a keyboard event outside tablet mode
(a step), or a tablet-switch event (a release-all) -/
theorem Adv.frame {L : Layout} {x y : Machine} {r : Resp} (ha : Adv L x r y) :
    (y.v.m = x.v.m ∧ y.v.inTablet = x.v.inTablet) ∨
    (x.v.inTablet = false ∧ y.v.inTablet = false) ∨
    (y.v.m = (releaseAll L x.v.m).1 ∧ ∃ tev, r = Resp.tab (Next.one tev) ∧
      y.v.inTablet = (match tev with | TabletEv.on => true | TabletEv.off => false)) := by
  cases ha with
  | kbdOneQuiet v rest ev hit hemp | kbdOneSend v rest ev hit hemp => exact Or.inr (Or.inl ⟨hit, by simp [hit]⟩)
  | tabOneQuiet v rest tev hemp | tabOneSend v rest tev hemp => exact Or.inr (Or.inr ⟨rfl, tev, rfl, rfl⟩)
  | _ => exact Or.inl (by simp)

/-! ### the invariant, arm by arm -/

/-- an arm that reads no event and completes no step / release-all send -/
theorem LoopInv.quiet {L : Layout} {v : LoopVars} {c : Ctl} {g : Ghost} {y : Machine} (h : LoopInv L ⟨v, c⟩ g)
    (hc : c.pendingOut = []) (hnd : ∀ msg, c ≠ Ctl.done (some msg))
    (hm : y.v.m = v.m) (hy : y.c.pendingOut = []) (hb : y.c ≠ Ctl.bad) : LoopInv L y g := by
  refine ⟨hm.trans h.mapper, Or.inr ?_, h.prefix_, hb⟩
  rcases h.sends with ⟨msg, hmsg⟩ | hs
  · exact absurd hmsg (hnd msg)
  · rw [hy]; rw [hc] at hs; exact hs

/-- an arm that completes the pending step / release-all send -/
theorem LoopInv.sent {L : Layout} {v : LoopVars} {c : Ctl} {g : Ghost} {y : Machine} {evs : List Event}
    (h : LoopInv L ⟨v, c⟩ g) (hc : c.pendingOut = [evs]) (hnd : ∀ msg, c ≠ Ctl.done (some msg))
    (hm : y.v.m = v.m) (hy : y.c.pendingOut = []) (hb : y.c ≠ Ctl.bad) :
    LoopInv L y { g with sent := g.sent ++ [evs] } := by
  have hs : g.sent ++ [evs] = nonEmptyOuts L Sys.init g.ops := by
    rcases h.sends with ⟨msg, hmsg⟩ | hs
    · exact absurd hmsg (hnd msg)
    · rw [hc] at hs; exact hs
  exact ⟨hm.trans h.mapper, Or.inr (by rw [hy]; simpa using hs), ⟨[], by simpa using hs⟩, hb⟩

/-- an arm that performs `op` on the mapper and is left with its output, if any, to send -/
theorem LoopInv.op {L : Layout} {v : LoopVars} {c : Ctl} {g : Ghost} {y : Machine} (op : Op)
    (h : LoopInv L ⟨v, c⟩ g) (hc : c.pendingOut = []) (hnd : ∀ msg, c ≠ Ctl.done (some msg))
    (hm : y.v.m = ((Sys.run L Sys.init g.ops).next L op).s)
    (hy : y.c.pendingOut = nonEmptyOuts L (Sys.run L Sys.init g.ops) [op]) (hb : y.c ≠ Ctl.bad) :
    LoopInv L y { g with ops := g.ops ++ [op] } := by
  have hs : g.sent = nonEmptyOuts L Sys.init g.ops := by
    rcases h.sends with ⟨msg, hmsg⟩ | hs
    · exact absurd hmsg (hnd msg)
    · rw [hc] at hs; simpa using hs
  refine ⟨?_, Or.inr ?_, ⟨y.c.pendingOut, ?_⟩, hb⟩
  · rw [hm]; simp [Sys.run, List.foldl_append]
  all_goals simp only [nonEmptyOuts_append, hy, hs]

/-- the invariant survives every arm -/
theorem LoopInv.adv {L : Layout} {x y : Machine} {r : Resp} {g : Ghost} (h : LoopInv L x g) (ha : Adv L x r y) :
    LoopInv L y (ghostStep x r g) := by
  have hm := h.mapper
  cases ha with
  | err v c msg hc =>
    have hg : ghostStep ⟨v, c⟩ (Resp.err msg) g = g := by cases c <;> rfl
    rw [hg]; exact ⟨hm, Or.inl ⟨msg, rfl⟩, h.prefix_, by simp⟩
  | sendStep v rest evs rr => exact h.sent rfl (by simp) (by simp) (by simp) (by simp)
  | sendRel v rest evs => exact h.sent rfl (by simp) rfl rfl (by simp)
  | kbdOneTablet v rest ev hit =>
    rw [show ghostStep ⟨v, Ctl.readKbd rest⟩ (Resp.kbd (Next.one ev)) g = g by simp [ghostStep, hit]]
    exact h.quiet rfl (by simp) rfl rfl (by simp)
  | kbdOneQuiet v rest ev hit hemp | kbdOneSend v rest ev hit hemp =>
    rw [show ghostStep ⟨v, Ctl.readKbd rest⟩ (Resp.kbd (Next.one ev)) g = { g with ops := g.ops ++ [Op.ev ev] } by
      simp [ghostStep, hit]]
    exact h.op (Op.ev ev) rfl (by simp) (by simp [Sys.next, ← hm])
      (by simp [nonEmptyOuts, Sys.out, ← hm, hemp, Ctl.pendingOut]) (by simp)
  | tabOneQuiet v rest tev hemp | tabOneSend v rest tev hemp =>
    exact h.op Op.relAll rfl (by simp) (by simp [Sys.next, ← hm])
      (by simp [nonEmptyOuts, Sys.out, ← hm, hemp, Ctl.pendingOut]) (by simp)
  | _ => exact h.quiet rfl (by simp) (by simp) (by simp [Ctl.pendingOut]) (by simp)

/-- the invariant survives every answer (an ill-typed answer leads to `bad`, which a real driver cannot produce) -/
theorem LoopInv.advance {L : Layout} {x : Machine} {g : Ghost} (h : LoopInv L x g) (r : Resp)
    (hok : (advance L x r).c ≠ Ctl.bad) : LoopInv L (advance L x r) (ghostStep x r g) :=
  h.adv (Adv.of_ne_bad hok)

end TmVerif
