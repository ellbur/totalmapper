/-
C13_spec, layer C: the two passes of `convert`.  `FromSet::new` (sort all keys but the last) is a
canonical form: two triggers have equal `FromSet`s iff they have the same final key and the same
other keys as multisets (`Expand.sameTrigger`).  `from_table` holds, for every canonical trigger,
exactly the positions of the first-pass mappings with that trigger set; the mutation loop of
`adjust_repeats` is the specification's `applyRepeat`.
-/
import TmVerif.Proofs.LoadExpandA

namespace TmVerif
namespace Convert
open Outcome Fancy Expand

/-! ### insertion sort is canonical -/

theorem count_insertKey (k x : Key) (l : List Key) : (insertKey k l).count x = (k :: l).count x := by
  induction l with
  | nil => rfl
  | cons y ys ih =>
    simp only [insertKey]
    split
    · simp only [List.count_cons, ih]; omega
    · rfl

theorem count_sortKeys (x : Key) (l : List Key) : (sortKeys l).count x = l.count x := by
  induction l with
  | nil => rfl
  | cons k ks ih => simp only [sortKeys, count_insertKey, List.count_cons, ih]

theorem mem_insertKey {k x : Key} {l : List Key} : x ∈ insertKey k l ↔ x = k ∨ x ∈ l := by
  induction l with
  | nil => simp [insertKey]
  | cons y ys ih =>
    simp only [insertKey]
    split
    · simp only [List.mem_cons, ih]
      constructor
      · rintro (h | h | h) <;> simp [h]
      · rintro (h | h | h) <;> simp [h]
    · simp

theorem sorted_insertKey (k : Key) {l : List Key} (h : l.Pairwise (· ≤ ·)) : (insertKey k l).Pairwise (· ≤ ·) := by
  induction l with
  | nil => simp [insertKey]
  | cons y ys ih =>
    rw [List.pairwise_cons] at h
    simp only [insertKey]
    split
    · rename_i hlt
      rw [List.pairwise_cons]
      refine ⟨?_, ih h.2⟩
      intro z hz
      show y ≤ z
      rcases mem_insertKey.1 hz with rfl | hz
      · exact Nat.le_of_lt hlt
      · exact h.1 z hz
    · rename_i hge
      rw [List.pairwise_cons]
      refine ⟨?_, List.pairwise_cons.2 h⟩
      intro z hz
      show k ≤ z
      have hky : k ≤ y := Nat.le_of_not_lt hge
      rcases List.mem_cons.1 hz with rfl | hz
      · exact hky
      · exact Nat.le_trans hky (h.1 z hz)

theorem sorted_sortKeys (l : List Key) : (sortKeys l).Pairwise (· ≤ ·) := by
  induction l with
  | nil => simp [sortKeys]
  | cons k ks ih => exact sorted_insertKey k ih

theorem eq_of_sorted_of_count : ∀ {l1 l2 : List Key}, l1.Pairwise (· ≤ ·) → l2.Pairwise (· ≤ ·) →
    (∀ x, l1.count x = l2.count x) → l1 = l2
  | [], [], _, _, _ => rfl
  | [], y :: ys, _, _, h => by have := h y; simp at this
  | x :: xs, [], _, _, h => by have := h x; simp at this
  | x :: xs, y :: ys, h1, h2, h => by
    rw [List.pairwise_cons] at h1 h2
    have hx : x ∈ y :: ys := by
      have := h x
      rw [List.count_cons_self] at this
      exact List.count_pos_iff.1 (by omega)
    have hy : y ∈ x :: xs := by
      have := h y
      rw [List.count_cons_self] at this
      exact List.count_pos_iff.1 (by omega)
    have hxy : x = y := by
      rcases List.mem_cons.1 hx with h' | h'
      · exact h'
      · rcases List.mem_cons.1 hy with h'' | h''
        · exact h''.symm
        · have a : y ≤ x := h2.1 x h'
          have b : x ≤ y := h1.1 y h''
          exact Nat.le_antisymm b a
    subst hxy
    congr 1
    apply eq_of_sorted_of_count h1.2 h2.2
    intro z
    have := h z
    simp only [List.count_cons] at this
    omega

theorem sortKeys_eq_iff {a b : List Key} : sortKeys a = sortKeys b ↔ ∀ x, a.count x = b.count x := by
  constructor
  · intro h x
    rw [← count_sortKeys x a, ← count_sortKeys x b, h]
  · intro h
    exact eq_of_sorted_of_count (sorted_sortKeys a) (sorted_sortKeys b) fun x => by
      rw [count_sortKeys, count_sortKeys, h x]

theorem count_all_iff {a b : List Key} :
    ((a ++ b).all fun k => a.count k == b.count k) = true ↔ ∀ x, a.count x = b.count x := by
  simp only [List.all_eq_true, beq_iff_eq, List.mem_append]
  constructor
  · intro h x
    by_cases hx : x ∈ a ∨ x ∈ b
    · exact h x hx
    · have ha : x ∉ a := fun h' => hx (Or.inl h')
      have hb : x ∉ b := fun h' => hx (Or.inr h')
      rw [List.count_eq_zero_of_not_mem ha, List.count_eq_zero_of_not_mem hb]
  · intro h x _
    exact h x

/-- `FromSet` equality is "same trigger set" -/
theorem fromSet_beq (a b : List Key) : (fromSet a == fromSet b) = sameTrigger a b := by
  rw [Bool.eq_iff_iff, beq_iff_eq]
  unfold fromSet sameTrigger
  simp only [Bool.and_eq_true, beq_iff_eq, count_all_iff, ← sortKeys_eq_iff]
  cases ha : a.getLast? with
  | none =>
    cases hb : b.getLast? with
    | none =>
      have ha' : a = [] := List.getLast?_eq_none_iff.1 ha
      have hb' : b = [] := List.getLast?_eq_none_iff.1 hb
      subst ha' hb'
      simp
    | some lb => simp
  | some la =>
    cases hb : b.getLast? with
    | none => simp
    | some lb =>
      simp only [Option.some.injEq]
      constructor
      · intro h
        have := List.append_inj' h rfl
        exact ⟨by simpa using this.2, this.1⟩
      · rintro ⟨rfl, h⟩
        rw [h]

/-! ### the table of triggers -/

/-- positions (counted from `s`) of the elements satisfying `q` -/
def indicesFrom (s : Nat) (q : TmVerif.Mapping → Bool) : List TmVerif.Mapping → List Nat
  | [] => []
  | m :: l => (if q m then [s] else []) ++ indicesFrom (s + 1) q l

theorem indicesFrom_append_singleton (q : TmVerif.Mapping → Bool) (x : TmVerif.Mapping) :
    ∀ (l : List TmVerif.Mapping) (s : Nat),
      indicesFrom s q (l ++ [x]) = indicesFrom s q l ++ (if q x then [s + l.length] else []) := by
  intro l
  induction l with
  | nil => intro s; simp [indicesFrom]
  | cons m l ih =>
    intro s
    simp only [List.cons_append, indicesFrom, ih (s + 1), List.length_cons, List.append_assoc]
    congr 2
    split <;> simp <;> omega

theorem indicesFrom_eq_nil {q : TmVerif.Mapping → Bool} :
    ∀ {l : List TmVerif.Mapping} {s : Nat}, indicesFrom s q l = [] ↔ l.any q = false := by
  intro l
  induction l with
  | nil => intro s; simp [indicesFrom]
  | cons m l ih =>
    intro s
    simp only [indicesFrom, List.append_eq_nil_iff, ih, List.any_cons, Bool.or_eq_false_iff]
    cases q m <;> simp

/-- `indicesFrom` only looks at what `q` looks at -/
theorem indicesFrom_congr {q : TmVerif.Mapping → Bool} (hq : ∀ m m' : TmVerif.Mapping, m.frm = m'.frm → q m = q m') :
    ∀ {l1 l2 : List TmVerif.Mapping} (s : Nat), l1.map (·.frm) = l2.map (·.frm) → indicesFrom s q l1 = indicesFrom s q l2
  | [], [], _, _ => rfl
  | [], _ :: _, _, h => by simp at h
  | _ :: _, [], _, h => by simp at h
  | m1 :: l1, m2 :: l2, s, h => by
    simp only [List.map_cons, List.cons.injEq] at h
    simp only [indicesFrom, hq m1 m2 h.1, indicesFrom_congr hq (s + 1) h.2]

/-- `from_table` is exact for the list `l`: for every canonical trigger it holds the positions of the
mappings of `l` with that trigger set, in order; no entry if there is none -/
def TableExact (table : FromTable) (l : List TmVerif.Mapping) : Prop :=
  ∀ fs, tableGet fs table =
    (match indicesFrom 0 (fun m => fromSet m.frm == fs) l with
     | [] => none
     | i :: is => some (i :: is))

theorem tableGet_tablePush (fs fs' : List Key) (i : Nat) (table : FromTable) :
    tableGet fs (tablePush fs' i table) =
      if fs' == fs then some ((tableGet fs table).getD [] ++ [i]) else tableGet fs table := by
  induction table with
  | nil =>
    simp only [tablePush, tableGet]
    split <;> simp
  | cons e rest ih =>
    obtain ⟨k, v⟩ := e
    simp only [tablePush]
    by_cases hk : k = fs'
    · subst hk
      simp only [beq_self_eq_true, if_true, tableGet]
      by_cases hf : k = fs
      · simp [hf]
      · have : (k == fs) = false := by simpa using hf
        simp [this]
    · have hk' : (k == fs') = false := by simpa using hk
      simp only [hk', Bool.false_eq_true, if_false, tableGet, ih]
      by_cases hf : k = fs
      · subst hf
        have : (fs' == k) = false := by simpa using Ne.symm hk
        simp [this]
      · have : (k == fs) = false := by simpa using hf
        simp [this]

theorem TableExact.push {table : FromTable} {l : List TmVerif.Mapping} (h : TableExact table l) (sm : TmVerif.Mapping) :
    TableExact (tablePush (fromSet sm.frm) l.length table) (l ++ [sm]) := by
  intro fs
  rw [tableGet_tablePush, indicesFrom_append_singleton, h fs]
  simp only [Nat.zero_add]
  by_cases hf : fromSet sm.frm = fs
  · simp only [hf, beq_self_eq_true, if_true]
    cases indicesFrom 0 (fun m => fromSet m.frm == fs) l <;> simp
  · have : (fromSet sm.frm == fs) = false := by simpa using hf
    simp only [this, Bool.false_eq_true, if_false, List.append_nil]

theorem pushAll_exact (sms : List TmVerif.Mapping) :
    ∀ (res : List TmVerif.Mapping) (table : FromTable), TableExact table res →
      TableExact (pushAll sms res table).2 (res ++ sms) := by
  induction sms with
  | nil => intro res table h; simpa [pushAll] using h
  | cons sm sms ih =>
    intro res table h
    simp only [pushAll]
    have := ih (res ++ [sm]) _ (h.push sm)
    simpa using this

theorem pushAll_fst (sms : List TmVerif.Mapping) :
    ∀ (res : List TmVerif.Mapping) (table : FromTable), (pushAll sms res table).1 = res ++ sms := by
  induction sms with
  | nil => intros; simp [pushAll]
  | cons sm sms ih => intro res table; simp [pushAll, ih]

theorem pushAll_append (a b : List TmVerif.Mapping) : ∀ (res : List TmVerif.Mapping) (table : FromTable),
    pushAll (a ++ b) res table = pushAll b (pushAll a res table).1 (pushAll a res table).2 := by
  induction a with
  | nil => intros; rfl
  | cons m a ih => intro res table; simp only [List.cons_append, pushAll, ih]

/-- the first pass converts every source mapping, then pushes the results in order -/
theorem firstPass_eq (F : Fancy.Layout) : ∀ (fms : List Fancy.Mapping) (res : List TmVerif.Mapping) (table : FromTable),
    firstPass F fms res table =
      (mapM (convertMapping F) fms).bind fun groups => ok (pushAll groups.flatten res table) := by
  intro fms
  induction fms with
  | nil => intros; rfl
  | cons fm fms ih => intro res table; simp [firstPass, mapM, ih, pushAll_append]

/-! ### the mutation loop -/

theorem setRepeatAt_append (rep : Repeat) (m : TmVerif.Mapping) (post : List TmVerif.Mapping) :
    ∀ (pre : List TmVerif.Mapping), setRepeatAt rep (pre ++ m :: post) pre.length = ok (pre ++ { m with rep := rep } :: post) := by
  intro pre
  induction pre with
  | nil => rfl
  | cons p pre ih => simp [setRepeatAt, ih]

theorem setRepeats_indices (rep : Repeat) (q : TmVerif.Mapping → Bool) (post : List TmVerif.Mapping) :
    ∀ (l pre : List TmVerif.Mapping),
      setRepeats rep (indicesFrom pre.length q l) (pre ++ l ++ post) =
        ok (pre ++ l.map (fun m => if q m then { m with rep := rep } else m) ++ post) := by
  intro l
  induction l with
  | nil => intro pre; simp [indicesFrom, setRepeats]
  | cons m l ih =>
    intro pre
    simp only [indicesFrom]
    by_cases hq : q m = true
    · simp only [hq, if_true, setRepeats, List.append_assoc, List.cons_append,
        setRepeatAt_append, bind_ok, List.map_cons]
      have := ih (pre ++ [{ m with rep := rep }])
      simp only [List.length_append, List.length_singleton, List.append_assoc, List.singleton_append] at this
      exact this
    · have hq' : q m = false := by simpa using hq
      simp only [hq', Bool.false_eq_true, if_false, List.nil_append, List.map_cons]
      have := ih (pre ++ [m])
      simp only [List.length_append, List.length_singleton, List.append_assoc, List.singleton_append] at this
      simpa using this

/-- what the second pass relies on: `cur` still starts with the `n` first-pass mappings (up to
their repeats) -/
structure CurInv (base cur : List TmVerif.Mapping) : Prop where
  len : base.length ≤ cur.length
  frm : (cur.take base.length).map (·.frm) = base.map (·.frm)

theorem applyRepeat_inv {base cur : List TmVerif.Mapping} (h : CurInv base cur) (e : List Key × Repeat) :
    CurInv base (applyRepeat base.length cur e) := by
  unfold applyRepeat
  have hlen := h.len
  have hl : (cur.take base.length).length = base.length := by
    rw [List.length_take]; omega
  split
  · constructor
    · rw [List.length_append, List.length_map, hl]; omega
    · rw [List.take_left' (by rw [List.length_map, hl])]
      rw [← h.frm, List.map_map]
      apply List.map_congr_left
      intro m _
      simp only [Function.comp]
      split <;> rfl
  · constructor
    · simp; have := h.len; omega
    · rw [List.take_append_of_le_length h.len]
      exact h.frm

/-- one iteration of the loop of `adjust_repeats` is `applyRepeat` -/
theorem adjustOne_eq {F : Fancy.Layout} {c : Comb} (hc : CombOK F c) {t : List Nat} (ht : TupleOK c t)
    (hamap : ∀ n, lookupAlias n c.aliasMap = lastIdx (slots c.modifiers) 0 n)
    {table : FromTable} {base cur : List TmVerif.Mapping} (htab : TableExact table base) (hinv : CurInv base cur)
    (s : RepeatOnlySingleMapping) (hm : c.modifiers = s.frm.modifiers) :
    adjustOne table c s cur t =
      (repeatOnlyOne s (pick c.found t)).bind fun e => ok (applyRepeat base.length cur e) := by
  unfold adjustOne repeatOnlyOne
  rw [fromModifiers_eq hc ht, singleRepeat_eq hc ht hamap, hm]
  simp only [bind_ok, bind_assoc]
  congr 1
  funext rep
  generalize htrig : trigger s.frm.modifiers (pick c.found t) ++ [s.frm.key] = trig
  have hq : ∀ m m' : TmVerif.Mapping, m.frm = m'.frm →
      (fun m : TmVerif.Mapping => fromSet m.frm == fromSet trig) m = (fun m => fromSet m.frm == fromSet trig) m' := by
    intro m m' h; simp only [h]
  have hidx : indicesFrom 0 (fun m => fromSet m.frm == fromSet trig) base =
      indicesFrom 0 (fun m => sameTrigger m.frm trig) (cur.take base.length) := by
    rw [indicesFrom_congr hq 0 hinv.frm.symm]
    congr 1
    funext m
    exact fromSet_beq m.frm trig
  rw [htab (fromSet trig), hidx]
  unfold applyRepeat
  cases hi : indicesFrom 0 (fun m => sameTrigger m.frm trig) (cur.take base.length) with
  | nil =>
    have := indicesFrom_eq_nil.1 hi
    simp only [this, Bool.false_eq_true, if_false]
  | cons i is =>
    have hany : (cur.take base.length).any (fun m => sameTrigger m.frm trig) = true := by
      cases h' : (cur.take base.length).any (fun m => sameTrigger m.frm trig) with
      | true => rfl
      | false => rw [indicesFrom_eq_nil.2 h'] at hi; cases hi
    simp only [hany, if_true]
    have := setRepeats_indices rep (fun m => sameTrigger m.frm trig) (cur.drop base.length) (cur.take base.length) []
    simp only [List.length_nil, List.nil_append, List.take_append_drop] at this
    rw [← hi, this]

theorem adjustLoop_eq {F : Fancy.Layout} {c : Comb} (hc : CombOK F c)
    (hamap : ∀ n, lookupAlias n c.aliasMap = lastIdx (slots c.modifiers) 0 n)
    {table : FromTable} {base : List TmVerif.Mapping} (htab : TableExact table base)
    (s : RepeatOnlySingleMapping) (hm : c.modifiers = s.frm.modifiers) :
    ∀ (tuples : List (List Nat)), (∀ t ∈ tuples, TupleOK c t) → ∀ cur, CurInv base cur →
      adjustLoop table c s tuples cur =
        (mapM (repeatOnlyOne s) (tuples.map (pick c.found))).bind fun es =>
          ok (es.foldl (applyRepeat base.length) cur) := by
  intro tuples
  induction tuples with
  | nil => intro _ cur _; rfl
  | cons t tuples ih =>
    intro hts cur hinv
    simp only [adjustLoop, List.map_cons, mapM]
    rw [adjustOne_eq hc (hts t (List.mem_cons_self ..)) hamap htab hinv s hm]
    simp only [bind_assoc, bind_ok]
    congr 1
    funext e
    rw [ih (fun t' ht' => hts t' (List.mem_cons_of_mem _ ht')) _ (applyRepeat_inv hinv e)]
    rfl

theorem foldl_applyRepeat_inv {base : List TmVerif.Mapping} (es : List (List Key × Repeat)) :
    ∀ cur, CurInv base cur → CurInv base (es.foldl (applyRepeat base.length) cur) := by
  induction es with
  | nil => intro cur h; exact h
  | cons e es ih => intro cur h; exact ih _ (applyRepeat_inv h e)

theorem adjustRepeats_eq (F : Fancy.Layout) {table : FromTable} {base : List TmVerif.Mapping}
    (htab : TableExact table base) (fm : Fancy.Mapping) (cur : List TmVerif.Mapping) (hinv : CurInv base cur) :
    adjustRepeats F table cur fm =
      (repeatOnlyEntries F fm).bind fun es => ok (es.foldl (applyRepeat base.length) cur) := by
  cases fm with
  | single _ => rfl
  | alias _ => rfl
  | row _ => rfl
  | repeatOnly s =>
    simp only [adjustRepeats, repeatOnlyEntries]
    have hb := buildCombinations_eq F s.frm.modifiers
    cases hs : slotDefs F (slots s.frm.modifiers) with
    | none => rw [hs] at hb; simp [hb]
    | some ds =>
      rw [hs] at hb
      obtain ⟨amap, hb, hamap⟩ := hb
      have hc := combOK_of_slotDefs hs hamap
      simp only [hb, bind_ok, hc.multiply]
      rw [adjustLoop_eq hc hamap htab s rfl _ (fun t ht => hc.tupleOK ht) cur hinv]
      have : (cart (List.map List.length ds)).map (pick ds) = choices ds := (choices_eq_cart ds).symm
      simp only [this]

theorem secondPass_eq (F : Fancy.Layout) {table : FromTable} {base : List TmVerif.Mapping}
    (htab : TableExact table base) :
    ∀ (fms : List Fancy.Mapping) (cur : List TmVerif.Mapping), CurInv base cur →
      secondPass F table fms cur =
        (mapM (repeatOnlyEntries F) fms).bind fun ess => ok (ess.flatten.foldl (applyRepeat base.length) cur) := by
  intro fms
  induction fms with
  | nil => intro cur _; rfl
  | cons fm fms ih =>
    intro cur hinv
    simp only [secondPass, mapM]
    rw [adjustRepeats_eq F htab fm cur hinv]
    simp only [bind_assoc, bind_ok]
    congr 1
    funext es
    rw [ih _ (foldl_applyRepeat_inv es cur hinv)]
    simp only [List.flatten_cons, List.foldl_append]

theorem not_hasRepeatedKey (l : List Key) : (!hasRepeatedKey l) = decide l.Nodup := by
  induction l with
  | nil => rfl
  | cons k ks ih => simp [hasRepeatedKey, ← ih]

theorem noRepeatedKeys_eq (res : List TmVerif.Mapping) :
    noRepeatedKeys res = res.all fun m => decide m.frm.Nodup && decide m.to.Nodup := by
  simp only [noRepeatedKeys, not_hasRepeatedKey]

end Convert
end TmVerif
