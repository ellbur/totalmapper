/-
Old-shape corollaries still used by C04/C05b/C08/PassKeep/Frame.
-/
import TmVerif.Proofs.NoAbs

namespace TmVerif

theorem step_pressed_accepted (L : Layout) (s : State) (k : Key) (hk : k ∉ s.inp) :
    step L s (Event.pressed k) = newlyPress L s k := step_press hk

theorem step_pressed_ignored (L : Layout) (s : State) (k : Key) (hk : k ∈ s.inp) :
    step L s (Event.pressed k) = (s, ⟨[], RRepeat.noChange⟩) := step_ignored hk

theorem step_released_accepted (L : Layout) (s : State) (k : Key) (hk : k ∈ s.inp) :
    step L s (Event.released k) = newlyRelease s k := by simp [step, hk]

theorem step_released_ignored (L : Layout) (s : State) (k : Key) (hk : k ∉ s.inp) :
    step L s (Event.released k) = (s, ⟨[], RRepeat.noChange⟩) := step_ignored hk

theorem newlyPress_fire {L : Layout} {s : State} {k : Key} {m : Mapping} (hf : findMapping L s k = some m) :
    newlyPress L s k =
      ({ (addNewMapping (pressPrep s k) k m).1 with inp := (addNewMapping (pressPrep s k) k m).1.inp ++ [k] },
       (addNewMapping (pressPrep s k) k m).2) := by
  simp [newlyPress, hf]

theorem newlyPress_pass {L : Layout} {s : State} {k : Key} (hf : findMapping L s k = none)
    (hc : noHit s k = true) :
    newlyPress L s k =
      ({ (passThrough (pressPrep s k) k).1 with inp := (passThrough (pressPrep s k) k).1.inp ++ [k] },
       ⟨(passThrough (pressPrep s k) k).2, RRepeat.disabled⟩) := by
  unfold noHit at hc
  simp only [newlyPress, hf, hc, if_true]

theorem newlyPress_skip {L : Layout} {s : State} {k : Key} (hf : findMapping L s k = none)
    (hc : noHit s k = false) :
    newlyPress L s k = ({ pressPrep s k with inp := (pressPrep s k).inp ++ [k] }, ⟨[], RRepeat.disabled⟩) := by
  unfold noHit at hc
  simp only [newlyPress, hf, hc, Bool.false_eq_true, if_false]

theorem afterConsume_clear (s : State) (m : Mapping) :
    ∀ x, x ∈ (afterConsume s m).pass → x ∉ m.frm ∧ x ∉ m.to :=
  fun x hx => ((mem_afterConsume s m x).1.mp hx).2

theorem ram_pass_sub (s : State) (x : Key) (hx : x ∈ (releaseActionMappings s).1.pass) : x ∈ s.pass :=
  (releaseActionMappings_sub s).1 x hx

theorem releaseActionMappings_clean {s : State} (h : Clean s) : Clean (releaseActionMappings s).1 :=
  ⟨by simp [h.abs], by simp [h.trig]⟩

theorem passThrough_nonaction (s : State) (k : Key) (h : isActionKey k = false) :
    passThrough s k = ({ s with pass := s.pass ++ [k] }, [Event.pressed k]) := by
  simp [passThrough, h]

theorem passThrough_action (s : State) (k : Key) (h : isActionKey k = true) :
    passThrough s k =
      ({ (releaseAbsorbedKeys (releaseActionMappings s).1).1 with
           pass := (releaseAbsorbedKeys (releaseActionMappings s).1).1.pass ++ [k] },
       (releaseActionMappings s).2 ++ (releaseAbsorbedKeys (releaseActionMappings s).1).2 ++ [Event.pressed k]) := by
  simp [passThrough, h]

end TmVerif
