/-
Layouts without Special-repeat mappings: a step never asks for a repeat, so the loop's repeat stays
idle, no chord is ever sent, and ALL sends of the loop model are the step / release-all sends.
-/
import TmVerif.Proofs.EndToEndTimed
import TmVerif.Proofs.Press

namespace TmVerif

/-- no mapping of the layout has a Special repeat -/
def NoSpecial (L : Layout) : Prop := ∀ m ∈ L, ∀ ks d i, m.rep ≠ Repeat.special ks d i

/-- `add_new_mapping` of a mapping that is not Special never asks for a repeat -/
theorem addNewMapping_rep_noSpecial (s : State) (k : Key) (m : Mapping)
    (hm : ∀ ks d i, m.rep ≠ Repeat.special ks d i) :
    ∀ ks d i, (addNewMapping s k m).2.rep ≠ RRepeat.repeating ks d i := by
  intro ks d i
  simp only [addNewMapping, addPhase4]
  cases hr : m.rep with
  | normal => simp
  | disabled => simp
  | special ks' d' i' => exact absurd hr (hm ks' d' i')

/-- a step on such a layout never asks for a repeat -/
theorem step_rep_noSpecial (L : Layout) (hL : NoSpecial L) (s : State) (e : Event) :
    ∀ ks d i, (step L s e).2.rep ≠ RRepeat.repeating ks d i := by
  intro ks d i
  cases e with
  | pressed k =>
    simp only [step]
    split
    · simp only [newlyPress]
      cases hf : findMapping L s k with
      | some m =>
        simp only
        exact addNewMapping_rep_noSpecial _ k m (hL m (findMapping_some hf).1) ks d i
      | none =>
        simp only
        split <;> simp
    · simp
  | released k =>
    simp only [step]
    split
    · simp [newlyRelease]
    · simp

/-- the control points that exist only while a repeat is being armed or fired -/
def Ctl.noRepeat : Ctl → Prop
  | Ctl.sendChord _ => False
  | Ctl.stepNow _ _ _ _ => False
  | Ctl.sendStep _ _ (RRepeat.repeating _ _ _) => False
  | _ => True

/-- the loop's repeat is idle and the control point is none of the repeat ones -/
def Idle (x : Machine) : Prop := x.v.rep = WorkingRepeat.idle ∧ x.c.noRepeat

theorem Idle.not_sendChord {x : Machine} (h : Idle x) : ∀ evs, x.c ≠ Ctl.sendChord evs := by
  intro evs hc; have := h.2; rw [hc] at this; exact this

theorem Idle.not_stepNow {x : Machine} (h : Idle x) : ∀ rest ks d i, x.c ≠ Ctl.stepNow rest ks d i := by
  intro rest ks d i hc; have := h.2; rw [hc] at this; exact this

theorem Idle.not_sendStep_repeating {x : Machine} (h : Idle x) :
    ∀ rest evs ks d i, x.c ≠ Ctl.sendStep rest evs (RRepeat.repeating ks d i) := by
  intro rest evs ks d i hc; have := h.2; rw [hc] at this; exact this

theorem Idle.init {L : Layout} {x : Machine} (h : Machine.init L = some x) : Idle x := by
  rw [Machine.init_eq h]; exact ⟨rfl, trivial⟩

theorem toPollTop_idle {v : LoopVars} (h : v.rep = WorkingRepeat.idle) : Idle (toPollTop v) := by
  unfold toPollTop; rw [h]; exact ⟨h, trivial⟩

theorem drain_idle {v : LoopVars} (h : v.rep = WorkingRepeat.idle) (devs : List Dev) : Idle (drain v devs) := by
  cases devs with
  | nil => exact toPollTop_idle h
  | cons d rest => cases d <;> exact ⟨h, trivial⟩

theorem afterStep_idle {v : LoopVars} (h : v.rep = WorkingRepeat.idle) (rest : List Dev) (rr : RRepeat)
    (hrr : ∀ ks d i, rr ≠ RRepeat.repeating ks d i) : Idle (afterStep v rest rr) := by
  cases rr with
  | disabled => exact ⟨rfl, trivial⟩
  | noChange => exact ⟨h, trivial⟩
  | repeating ks d i => exact absurd rfl (hrr ks d i)

/-- the invariant survives every arm -/
theorem Idle.adv {L : Layout} (hL : NoSpecial L) {x y : Machine} {r : Resp} (h : Idle x) (ha : Adv L x r y) :
    Idle y := by
  obtain ⟨hv, hc⟩ := h
  cases ha with
  | sendStep v rest evs rr => exact afterStep_idle hv rest rr fun ks d i hrr => by subst hrr; exact hc
  | kbdOneQuiet v rest ev hit hemp =>
    exact afterStep_idle (v := { v with m := (step L v.m ev).1 }) hv rest _ (step_rep_noSpecial L hL v.m ev)
  | kbdOneSend v rest ev hit hemp =>
    refine ⟨hv, ?_⟩
    have hrr := step_rep_noSpecial L hL v.m ev
    show Ctl.noRepeat (Ctl.sendStep rest _ (step L v.m ev).2.rep)
    generalize (step L v.m ev).2.rep = rr at hrr
    cases rr <;> first | trivial | exact absurd rfl (hrr _ _ _)
  | start v | sendChord v _ | sleeping v _ | timedOutIdle v _ _ => exact toPollTop_idle hv
  | interruptedTop v _ _ => exact toPollTop_idle (v := { v with restartCount := v.restartCount + 1 }) hv
  | deviceEvent v _ devs => exact drain_idle (v := { v with restartCount := 0 }) hv devs
  | kbdBusy v rest | tabBusy v rest => exact drain_idle hv rest
  | pollNow _ _ _ _ _ hrep | timedOutTablet _ _ _ _ _ hrep _ | timedOutQuiet _ _ _ _ _ hrep _ _
  | timedOutChord _ _ _ _ _ hrep _ _ => rw [hv] at hrep; cases hrep
  | stepNow => exact hc.elim
  | _ => exact ⟨by first | exact hv | rfl, trivial⟩

theorem Idle.advance {L : Layout} (hL : NoSpecial L) {x : Machine} (h : Idle x) (r : Resp) :
    Idle (advance L x r) := by
  rcases advance_arm L x r with ha | ⟨hb, _⟩
  · exact h.adv hL ha
  · rw [hb]; exact ⟨h.1, trivial⟩

/-- the call an idle machine is blocked on is not a chord send: it counts the same in `allSends` and `callsSends` -/
theorem allSends_cons_idle {x : Machine} (h : Idle x) {c : Call} (hp : pending x = some c) (cs : List Call)
    (ih : allSends cs = callsSends cs) : allSends (c :: cs) = callsSends (c :: cs) := by
  obtain ⟨v, ct⟩ := x
  have hc : ct.noRepeat := h.2
  cases ct <;> simp only [pending, Option.some.injEq, reduceCtorEq] at hp <;> subst hp <;>
    first
    | exact absurd hc id
    | simp [allSends, callsSends, ih]

/-- from ANY idle machine: no chord is ever sent -/
theorem allSends_eq_callsSends_of_idle (L : Layout) (hL : NoSpecial L) (x : Machine) (hx : Idle x)
    (rs : List Resp) : allSends (runScript L x rs).1 = callsSends (runScript L x rs).1 := by
  induction rs generalizing x with
  | nil => rfl
  | cons r rs ih =>
    simp only [runScript]
    cases hp : pending x with
    | none => rfl
    | some c =>
      simp only
      exact allSends_cons_idle hx hp _ (ih _ (hx.advance hL r))

/-- … so the loop's repeat stays idle and no chord is ever sent: all sends are step / release-all sends -/
theorem allSends_eq_callsSends_noSpecial (L : Layout) (hL : NoSpecial L) (x0 : Machine) (h0 : Machine.init L = some x0)
    (rs : List Resp) : allSends (runScript L x0 rs).1 = callsSends (runScript L x0 rs).1 :=
  allSends_eq_callsSends_of_idle L hL x0 (Idle.init h0) rs

/-- and there are no chord sends among the calls -/
theorem callsChords_nil_of_idle (L : Layout) (hL : NoSpecial L) (x : Machine) (hx : Idle x)
    (rs : List Resp) : callsChords (runScript L x rs).1 = [] := by
  induction rs generalizing x with
  | nil => rfl
  | cons r rs ih =>
    simp only [runScript]
    cases hp : pending x with
    | none => rfl
    | some c =>
      simp only
      have ih' := ih _ (hx.advance hL r)
      obtain ⟨v, ct⟩ := x
      have hc : ct.noRepeat := hx.2
      cases ct <;> simp only [pending, Option.some.injEq, reduceCtorEq] at hp <;> subst hp <;>
        first
        | exact absurd hc id
        | simp [callsChords, ih']

theorem callsChords_nil_noSpecial (L : Layout) (hL : NoSpecial L) (x0 : Machine) (h0 : Machine.init L = some x0)
    (rs : List Resp) : callsChords (runScript L x0 rs).1 = [] :=
  callsChords_nil_of_idle L hL x0 (Idle.init h0) rs

end TmVerif

#print axioms TmVerif.step_rep_noSpecial
#print axioms TmVerif.Idle.advance
#print axioms TmVerif.allSends_eq_callsSends_noSpecial
#print axioms TmVerif.callsChords_nil_noSpecial
