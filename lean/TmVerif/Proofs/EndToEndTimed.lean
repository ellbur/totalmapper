/-
The TIMED wire-level composition: the loop model (`Model/Loop.lean`, M2) against `wireOfTLog`
(`Model/EndToEnd.lean`, M8).  For every script of answers without an error answer, from the initial
machine of a layout, as long as no ill-typed answer occurs: the bytes of ALL completed sends (step,
release-all and chord sends) in order, followed by the bytes of the send that is still pending, are
exactly `wireOfTLog` of the timed read log (the items read, and a tick for every `poll` that timed out
with a repeat armed outside tablet mode).
-/
import TmVerif.Proofs.LoopRun
import TmVerif.Proofs.EndToEnd

namespace TmVerif

/-- the payloads of ALL sends among the calls (step, release-all and chord sends), in order -/
def allSends : List Call → List (List Event)
  | [] => []
  | Call.send _ evs :: cs => evs :: allSends cs
  | _ :: cs => allSends cs

/-- what one answer adds to the timed read log -/
def tlogStep (x : Machine) (r : Resp) : List TItem :=
  match x.c, r with
  | Ctl.readKbd _, Resp.kbd (Next.one ev) => [TItem.item (Item.kbd ev)]
  | Ctl.readTab _, Resp.tab (Next.one tev) => [TItem.item (Item.tab tev)]
  | Ctl.polling _, Resp.poll PollRes.timedOut =>
    (match x.v.rep with
     | WorkingRepeat.repeating _ _ _ => if x.v.inTablet = false then [TItem.tick] else []
     | WorkingRepeat.idle => [])
  | _, _ => []

/-- the timed read log of a run (same recursion as `runScript`) -/
def tlogOf (L : Layout) : Machine → List Resp → List TItem
  | _, [] => []
  | x, r :: rs =>
    match pending x with
    | none => []
    | some _ => tlogStep x r ++ tlogOf L (advance L x r) rs

/-- the armed repeat keys of a `WorkingRepeat` -/
def repOf : WorkingRepeat → Option (List Key)
  | WorkingRepeat.idle => none
  | WorkingRepeat.repeating keys _ _ => some keys

/-- the repeat keys `wireOfTLog` has armed when the machine is at `x`: between a step and its arming
(`sendStep`, `stepNow`) the arming is already accounted for; in tablet mode nothing is armed (the
machine disarms at the next timeout, and no tick is logged in tablet mode) -/
def ghostRep (x : Machine) : Option (List Key) :=
  if x.v.inTablet then none else
  match x.c with
  | Ctl.sendStep _ _ rr => armAfter (repOf x.v.rep) rr
  | Ctl.stepNow _ keys _ _ => some keys
  | _ => repOf x.v.rep

/-- the bytes of the send the machine is blocked on, if any -/
def owedBytes (x : Machine) : List Nat :=
  match x.c with
  | Ctl.sendChord evs => encodeBatch evs
  | Ctl.sendStep _ evs _ => encodeBatch evs
  | Ctl.sendRel _ evs => encodeBatch evs
  | _ => []

/-- `wireOfTLog` from the ghost state of the machine -/
def wireFrom (L : Layout) (x : Machine) (tl : List TItem) : Option (List Nat) :=
  wireOfTLog L x.v.m (ghostRep x) x.v.inTablet tl

theorem runScript_bad (L : Layout) (v : LoopVars) (rs : List Resp) :
    (runScript L ⟨v, Ctl.bad⟩ rs).2.c = Ctl.bad := by
  cases rs <;> rfl

/-! ### `wireOfTLog`, item by item -/

theorem wireOfTLog_kbd_tablet (L : Layout) (s : State) (rep : Option (List Key)) (ev : Event) (tl : List TItem) :
    wireOfTLog L s rep true (TItem.item (Item.kbd ev) :: tl) = wireOfTLog L s rep true tl := by
  simp [wireOfTLog]

theorem wireOfTLog_kbd (L : Layout) (s : State) (rep : Option (List Key)) (ev : Event) (tl : List TItem) :
    wireOfTLog L s rep false (TItem.item (Item.kbd ev) :: tl) =
      (wireOfTLog L (step L s ev).1 (armAfter rep (step L s ev).2.rep) false tl).map
        (fun rest => wireBatch (step L s ev).2.events ++ rest) := by
  simp [wireOfTLog]

theorem wireOfTLog_tab (L : Layout) (s : State) (rep : Option (List Key)) (b : Bool) (tev : TabletEv) (tl : List TItem) :
    wireOfTLog L s rep b (TItem.item (Item.tab tev) :: tl) =
      (wireOfTLog L (releaseAll L s).1 none tev.mode tl).map (fun rest => wireBatch (releaseAll L s).2 ++ rest) := by
  simp [wireOfTLog]

theorem wireOfTLog_tick (L : Layout) (s : State) (keys : List Key) (b : Bool) (tl : List TItem) :
    wireOfTLog L s (some keys) b (TItem.tick :: tl) =
      (wireOfTLog L s (some keys) b tl).map (fun rest => wireBatch (chordOf s keys) ++ rest) := by
  simp [wireOfTLog]

theorem map_nil_append (o : Option (List Nat)) : o.map (fun rest => [] ++ rest) = o := by
  cases o <;> simp

/-! ### the ghost state at the joints of `advance` -/

theorem toPollTop_ghost (L : Layout) (v : LoopVars) (tl : List TItem) :
    wireFrom L (toPollTop v) tl = wireOfTLog L v.m (if v.inTablet then none else repOf v.rep) v.inTablet tl ∧
    owedBytes (toPollTop v) = [] := by
  unfold toPollTop; cases h : v.rep <;> simp [wireFrom, ghostRep, owedBytes, h] <;> rfl

theorem drain_ghost (L : Layout) (v : LoopVars) (devs : List Dev) (tl : List TItem) :
    wireFrom L (drain v devs) tl = wireOfTLog L v.m (if v.inTablet then none else repOf v.rep) v.inTablet tl ∧
    owedBytes (drain v devs) = [] := by
  cases devs with
  | nil => exact toPollTop_ghost L v tl
  | cons d rest => cases d <;> simp [drain, wireFrom, ghostRep, owedBytes] <;> rfl

theorem afterStep_ghost (L : Layout) (v : LoopVars) (rest : List Dev) (rr : RRepeat) (tl : List TItem) :
    wireFrom L (afterStep v rest rr) tl =
      wireOfTLog L v.m (if v.inTablet then none else armAfter (repOf v.rep) rr) v.inTablet tl ∧
    owedBytes (afterStep v rest rr) = [] := by
  cases rr <;> cases h : v.inTablet <;> simp [afterStep, wireFrom, ghostRep, owedBytes, armAfter, repOf, h]

/-- ONE answer: the timed log items it adds take `wireOfTLog` from the ghost state of `x` to the
ghost state of `advance L x r`, writing exactly the bytes of the send that became pending -/
theorem wireFrom_advance (L : Layout) (x : Machine) (r : Resp) (hr : ∀ msg, r ≠ Resp.err msg)
    (hok : (advance L x r).c ≠ Ctl.bad) (tl : List TItem) :
    wireFrom L x (tlogStep x r ++ tl) =
      (wireFrom L (advance L x r) tl).map (fun rest => owedBytes (advance L x r) ++ rest) := by
  obtain ⟨v, c⟩ := x
  cases r with
  | err msg => exact absurd rfl (hr msg)
  | unit =>
    cases c <;> try (exact absurd rfl hok)
    · rw [adv_start]; have t := toPollTop_ghost L v tl
      rw [t.1, t.2]; simp [tlogStep, wireFrom, ghostRep]
    · rw [adv_sendChord]; have t := toPollTop_ghost L v tl
      rw [t.1, t.2]; simp [tlogStep, wireFrom, ghostRep]
    · rw [adv_sleeping]; have t := toPollTop_ghost L v tl
      rw [t.1, t.2]; simp [tlogStep, wireFrom, ghostRep]
    · rename_i rest evs rr
      rw [adv_sendStep]; have t := afterStep_ghost L v rest rr tl
      rw [t.1, t.2]; simp [tlogStep, wireFrom, ghostRep]
    · rename_i rest evs
      rw [adv_sendRel]; simp [tlogStep, wireFrom, ghostRep, owedBytes]
  | time t =>
    cases c <;> try (exact absurd rfl hok)
    · cases hrep : v.rep with
      | idle => rw [adv_pollNow_idle L v hrep] at hok; exact absurd rfl hok
      | repeating keys nw iv =>
        rw [adv_pollNow L v hrep]; simp [tlogStep, wireFrom, ghostRep, owedBytes]
    · rw [adv_stepNow]; simp [tlogStep, wireFrom, ghostRep, owedBytes, repOf]
  | poll pr =>
    cases c <;> try (exact absurd rfl hok)
    rename_i tmo
    cases pr with
    | timedOut =>
      cases hrep : v.rep with
      | idle =>
        rw [adv_timedOut_idle L v hrep]; have t := toPollTop_ghost L v tl
        rw [t.1, t.2]; simp [tlogStep, wireFrom, ghostRep, hrep]
      | repeating keys nw iv =>
        cases hit : v.inTablet with
        | true =>
          rw [adv_timedOut_tablet L v hrep hit]
          have t := toPollTop_ghost L { v with rep := WorkingRepeat.idle } tl
          rw [t.1, t.2]; simp [tlogStep, wireFrom, ghostRep, hrep, hit]
        | false =>
          rw [adv_timedOut_chord L v hrep hit]
          have hl : wireFrom L ⟨v, Ctl.polling tmo⟩ (tlogStep ⟨v, Ctl.polling tmo⟩ (Resp.poll PollRes.timedOut) ++ tl) =
              (wireOfTLog L v.m (some keys) false tl).map (fun rest => wireBatch (chordOf v.m keys) ++ rest) := by
            simp [tlogStep, wireFrom, ghostRep, hrep, hit, repOf, wireOfTLog_tick]
          rw [hl]
          split
          · rename_i hemp
            have t := toPollTop_ghost L { v with rep := WorkingRepeat.repeating keys (nw + msToNs (asU64 iv)) iv } tl
            rw [t.1, t.2]; simp [hit, repOf, wireBatch, hemp]
          · rename_i hemp
            simp [wireFrom, ghostRep, owedBytes, hit, repOf, wireBatch, hemp]
    | interrupted =>
      rw [adv_interrupted]
      split
      · simp [tlogStep, wireFrom, ghostRep, owedBytes]
      · have t := toPollTop_ghost L { v with restartCount := v.restartCount + 1 } tl
        rw [t.1, t.2]; simp [tlogStep, wireFrom, ghostRep]
    | deviceEvent devs =>
      rw [adv_deviceEvent]; have t := drain_ghost L { v with restartCount := 0 } devs tl
      rw [t.1, t.2]; simp [tlogStep, wireFrom, ghostRep]
  | kbd n =>
    cases c <;> try (exact absurd rfl hok)
    rename_i rest
    cases n with
    | busy =>
      rw [adv_kbd_busy]; have t := drain_ghost L v rest tl
      rw [t.1, t.2]; simp [tlogStep, wireFrom, ghostRep]
    | end_ => rw [adv_kbd_end]; simp [tlogStep, wireFrom, ghostRep, owedBytes]
    | one ev =>
      cases hit : v.inTablet with
      | true =>
        rw [adv_kbd_one_tablet L v hit]
        simp [tlogStep, wireFrom, ghostRep, owedBytes, hit, wireOfTLog_kbd_tablet]
      | false =>
        rw [adv_kbd_one L v hit]
        have hl : wireFrom L ⟨v, Ctl.readKbd rest⟩ (tlogStep ⟨v, Ctl.readKbd rest⟩ (Resp.kbd (Next.one ev)) ++ tl) =
            (wireOfTLog L (step L v.m ev).1 (armAfter (repOf v.rep) (step L v.m ev).2.rep) false tl).map
              (fun r => wireBatch (step L v.m ev).2.events ++ r) := by
          simp [tlogStep, wireFrom, ghostRep, hit, wireOfTLog_kbd]
        rw [hl]
        split
        · rename_i hemp
          have t := afterStep_ghost L { v with m := (step L v.m ev).1 } rest (step L v.m ev).2.rep tl
          rw [t.1, t.2]; simp [hit, wireBatch, hemp]
        · rename_i hemp
          simp [wireFrom, ghostRep, owedBytes, hit, wireBatch, hemp]
  | tab n =>
    cases c <;> try (exact absurd rfl hok)
    rename_i rest
    cases n with
    | busy =>
      rw [adv_tab_busy]; have t := drain_ghost L v rest tl
      rw [t.1, t.2]; simp [tlogStep, wireFrom, ghostRep]
    | end_ => rw [adv_tab_end]; simp [tlogStep, wireFrom, ghostRep, owedBytes]
    | one tev =>
      rw [adv_tab_one]
      have hl : wireFrom L ⟨v, Ctl.readTab rest⟩ (tlogStep ⟨v, Ctl.readTab rest⟩ (Resp.tab (Next.one tev)) ++ tl) =
          (wireOfTLog L (releaseAll L v.m).1 none tev.mode tl).map (fun r => wireBatch (releaseAll L v.m).2 ++ r) := by
        simp [tlogStep, wireFrom, wireOfTLog_tab]
      rw [hl]
      split
      · rename_i hemp
        cases tev <;> simp [wireFrom, ghostRep, owedBytes, repOf, wireBatch, hemp, TabletEv.mode]
      · rename_i hemp
        cases tev <;> simp [wireFrom, ghostRep, owedBytes, repOf, wireBatch, hemp, TabletEv.mode]

/-- the bytes of the recorded call are the bytes owed at the control point -/
theorem allSends_cons_of_pending {x : Machine} {c : Call} (hp : pending x = some c) (cs : List Call) :
    (allSends (c :: cs)).flatMap encodeBatch = owedBytes x ++ (allSends cs).flatMap encodeBatch := by
  obtain ⟨v, ct⟩ := x
  cases ct <;> simp only [pending, Option.some.injEq, reduceCtorEq] at hp <;> subst hp <;>
    simp [allSends, owedBytes]

/-- from ANY machine: `wireOfTLog` from its ghost state over the timed log of the run, after the bytes
it owes at the start, is the bytes of all completed sends followed by the bytes owed at the end -/
theorem wireFrom_runScript (L : Layout) (x : Machine) (rs : List Resp)
    (hne : noErr rs = true) (hok : (runScript L x rs).2.c ≠ Ctl.bad) :
    (wireFrom L x (tlogOf L x rs)).map (fun rest => owedBytes x ++ rest) =
      some ((allSends (runScript L x rs).1).flatMap encodeBatch ++ owedBytes (runScript L x rs).2) := by
  induction rs generalizing x with
  | nil => simp [tlogOf, runScript, allSends, wireFrom, wireOfTLog]
  | cons r rs ih =>
    simp only [tlogOf, runScript] at hok ⊢
    cases hp : pending x with
    | none => simp [allSends, wireFrom, wireOfTLog]
    | some c =>
      simp only [hp] at hok ⊢
      have hne' : noErr rs = true := by cases r <;> simp_all [noErr]
      have hr : ∀ msg, r ≠ Resp.err msg := by intro msg h; subst h; simp [noErr] at hne
      have hb : (advance L x r).c ≠ Ctl.bad := by
        intro hbad
        apply hok
        generalize advance L x r = y at hbad ⊢
        obtain ⟨v', c'⟩ := y
        cases hbad
        exact runScript_bad L v' rs
      rw [wireFrom_advance L x r hr hb, allSends_cons_of_pending hp]
      have := ih (advance L x r) hne' hok
      rw [this]; simp [List.append_assoc]

/-- every script of answers without an error answer, from the initial machine of a layout, as long as
the machine does not reach `Ctl.bad` (an ill-typed answer): the bytes of all COMPLETED sends (step,
release-all and chord sends: the `send` calls that have been answered), in order, followed by the
bytes of the send that is still pending at the end of the script, are exactly `wireOfTLog` of the
timed read log -/
theorem wireOfTLog_runScript (L : Layout) (x0 : Machine) (h0 : Machine.init L = some x0) (rs : List Resp)
    (hne : noErr rs = true) (hok : (runScript L x0 rs).2.c ≠ Ctl.bad) :
    wireOfTLog L State.init none false (tlogOf L x0 rs) =
      some ((allSends (runScript L x0 rs).1).flatMap encodeBatch ++ owedBytes (runScript L x0 rs).2) := by
  have hx := Machine.init_eq h0
  have h := wireFrom_runScript L x0 rs hne hok
  subst hx
  simpa [wireFrom, ghostRep, owedBytes, repOf, map_nil_append] using h

/-- the machine blocked on `poll` at the end: no send is pending -/
theorem wireOfTLog_runScript_polling (L : Layout) (x0 : Machine) (h0 : Machine.init L = some x0) (rs : List Resp)
    (hne : noErr rs = true) (t : Option Nat) (hpoll : (runScript L x0 rs).2.c = Ctl.polling t) :
    wireOfTLog L State.init none false (tlogOf L x0 rs) =
      some ((allSends (runScript L x0 rs).1).flatMap encodeBatch) := by
  rw [wireOfTLog_runScript L x0 h0 rs hne (by rw [hpoll]; simp)]
  simp [owedBytes, hpoll]

end TmVerif

#print axioms TmVerif.wireFrom_advance
#print axioms TmVerif.wireFrom_runScript
#print axioms TmVerif.wireOfTLog_runScript
#print axioms TmVerif.wireOfTLog_runScript_polling
