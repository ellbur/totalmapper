/-
What the loader guarantees, as predicates: of the fancy layout the parser returns (`Fancy.layoutOK`:
known keys, `i32` delays, absorbed modifiers among the trigger's, alias definitions with a key) and
of the basic layout `convert` returns (`Saveable`: what the saved file needs to reload as the same
layout).
-/
import TmVerif.Model.Parse

namespace TmVerif
open Parse

def keysKnown (ks : List Key) : Bool := ks.all isKnownKey

def Repeat.saveable : Repeat → Bool
  | Repeat.normal => true
  | Repeat.disabled => true
  | Repeat.special keys d i => keysKnown keys && inI32 d && inI32 i

/-- What a basic mapping must satisfy for the saved file to reload as the same mapping:
* `Mapping.wf`: a non-empty trigger (the loader rejects `"from": []`), no key twice in trigger or
  output (the duplicate check at the end of `convert`);
* every key is one of the 484 key codes (otherwise it has no name to be written under);
* every absorbed key is one of the trigger's modifiers, i.e. in the trigger before its final key
  (the loader rejects an `absorbing` entry that is not among the `from` modifiers);
* `delay_ms` / `interval_ms` are `i32` values (they are in Rust). -/
def Mapping.saveable (m : TmVerif.Mapping) : Bool :=
  Mapping.wf m && keysKnown m.frm && keysKnown m.to && keysKnown m.absorbing &&
  m.absorbing.all (fun k => m.frm.dropLast.contains k) && Repeat.saveable m.rep

def Saveable (L : TmVerif.Layout) : Bool := L.all Mapping.saveable

theorem keysKnown_iff {ks : List Key} : keysKnown ks = true ↔ ∀ k ∈ ks, isKnownKey k = true := by
  simp [keysKnown]

theorem keysKnown_append {a b : List Key} : keysKnown (a ++ b) = true ↔ keysKnown a = true ∧ keysKnown b = true := by
  simp [keysKnown]

theorem keysKnown_cons {k : Key} {ks : List Key} :
    keysKnown (k :: ks) = true ↔ isKnownKey k = true ∧ keysKnown ks = true := by
  simp [keysKnown]

theorem Saveable.wf {L : TmVerif.Layout} (h : Saveable L = true) : Layout.wf L = true :=
  List.all_eq_true.2 fun m hm => by
    have := List.all_eq_true.1 h m hm
    simp only [Mapping.saveable, Bool.and_eq_true, and_assoc] at this
    exact this.1

namespace Fancy

def modOK : Modifier → Bool
  | Modifier.key k => isKnownKey k
  | Modifier.alias _ => true

def modsOK (ms : List Modifier) : Bool := ms.all modOK

def termOK : Terminal → Bool
  | Terminal.physical k => isKnownKey k
  | Terminal.null => true

def stkOK (t : SingleToKeys) : Bool := modsOK t.initial && termOK t.terminal

def srepOK : SingleRepeat → Bool
  | SingleRepeat.special keys d i => stkOK keys && inI32 d && inI32 i
  | _ => true

def rrepOK : RowRepeat → Bool
  | RowRepeat.special keys d i => modsOK keys.initial && inI32 d && inI32 i
  | _ => true

def mappingOK : Fancy.Mapping → Bool
  | Mapping.single s =>
    modsOK s.frm.modifiers && isKnownKey s.frm.key && stkOK s.to && srepOK s.rep && modsOK s.absorbing &&
      absorbingOk s.absorbing s.frm.modifiers
  | Mapping.alias a => keysKnown a.frm.keys && keysKnown a.to.initial && !a.frm.keys.isEmpty
  | Mapping.row r =>
    modsOK r.frm.modifiers && modsOK r.to.initial && rrepOK r.rep && modsOK r.absorbing &&
      absorbingOk r.absorbing r.frm.modifiers
  | Mapping.repeatOnly s => modsOK s.frm.modifiers && isKnownKey s.frm.key && srepOK s.rep

/-- what the parser guarantees about every mapping of the layout it returns -/
def layoutOK (F : Fancy.Layout) : Bool := F.all mappingOK

end Fancy

/-- what `load_wf` needs of a fancy layout, and `parse_layout_from_json` guarantees: an alias
definition has at least one trigger key (`single_to_alias_from` always pushes `from.key`) -/
def Fancy.aliasFromNonempty (F : Fancy.Layout) : Bool :=
  F.all fun m =>
    match m with
    | Fancy.Mapping.alias a => !a.frm.keys.isEmpty
    | _ => true

theorem Fancy.aliasFromNonempty_of_layoutOK {F : Fancy.Layout} (h : Fancy.layoutOK F = true) :
    Fancy.aliasFromNonempty F = true :=
  List.all_eq_true.2 fun m hm => by
    have := List.all_eq_true.1 h m hm
    cases m <;> simp_all [Fancy.mappingOK]

end TmVerif
