/-
I8 (every layout, since the D5 fix — `consume_pass_through_keys` runs once more after
`release_absorbed_keys`): no trigger key and no output key of a mapping in effect is in the
pass-through list ("consumed").  Gives C02(d) and the second release clause of C05.
-/
import TmVerif.Proofs.Foreign

namespace TmVerif

def Consumed (s : State) : Prop :=
  ∀ m, m ∈ s.active → ∀ k, (k ∈ m.frm ∨ k ∈ m.to) → k ∉ s.pass

theorem pressAll_pass_sub (s : State) (ys : List Key) (x : Key) (hx : x ∈ (pressAll s ys).1.pass) : x ∈ s.pass := by
  induction ys generalizing s with
  | nil => exact hx
  | cons y ys ih => rw [pressAll_cons] at hx; exact ((mem_pressOne s y x).1.mp (ih _ hx)).1

theorem addPhase4_pass_sub (s : State) (k : Key) (m : Mapping) (x : Key)
    (hx : x ∈ (addPhase4 s k m).1.pass) : x ∈ s.pass := by
  unfold addPhase4 at hx
  cases hr : m.rep <;> simp [hr, releaseAllActionKeys] at hx <;> grind

/-- firing `m` from the state after phase 2 only shrinks pass-through -/
theorem finishFire_pass_sub (s : State) (k : Key) (m : Mapping) (x : Key) (hx : x ∈ (finishFire s k m).pass) :
    x ∈ s.pass :=
  pressAll_pass_sub s m.to x (by simpa using addPhase4_pass_sub _ k m x hx)

/-- in a clean state, firing `m` only shrinks pass-through, and removes every key `m` mentions -/
theorem addNewMapping_clean_pass {s : State} (k0 : Key) (m : Mapping) (hc : Clean s) (x : Key)
    (hx : x ∈ (addNewMapping s k0 m).1.pass) : x ∈ s.pass ∧ x ∉ m.frm ∧ x ∉ m.to := by
  have h3 : x ∈ (addPhase2 (afterConsume s m) k0 m).1.pass := finishFire_pass_sub _ k0 m x hx
  rw [addPhase2_clean (s := afterConsume s m) k0 m ⟨hc.abs, hc.trig⟩
    fun x hx => ((mem_afterConsume s m x).1.mp hx).2] at h3
  exact (mem_afterConsume s m x).1.mp ((ramIf_sub m _).1 x h3)

theorem passThrough_clean_pass {s : State} (k0 : Key) (hc : Clean s) (x : Key)
    (hx : x ∈ (passThrough s k0).1.pass) : x ∈ s.pass ∨ x = k0 := by
  rw [passThrough_eq] at hx
  simp only [List.mem_append, List.mem_singleton] at hx
  refine hx.imp_left fun hx => ?_
  unfold passRel at hx; split at hx
  · rw [releaseAbsorbedKeys_clean ⟨by simp [hc.abs], by simp [hc.trig]⟩] at hx
    exact (releaseActionMappings_sub s).1 x hx
  · exact hx

/-- the drop loop hands a key over to pass-through only if no mapping that stays mentions it -/
theorem dropFailing_pass_new (k : Key) (s : State) (rb after : List Mapping) (x : Key)
    (hx : x ∈ (dropFailing k s rb after).1.pass) :
    x ∈ s.pass ∨ ∀ m, m ∈ (dropFailing k s rb after).1.active → x ∉ m.frm ∧ x ∉ m.to := by
  induction rb generalizing s after with
  | nil => left; simpa [dropFailing] using hx
  | cons m rb ih =>
    simp only [dropFailing] at hx ⊢
    split at hx
    · rename_i hf
      simp only [hf, if_true]
      rcases ih _ after hx with h1 | h1
      · rw [removeMapping_eq] at h1
        simp only [List.mem_append, List.mem_filter, List.mem_reverse] at h1
        refine h1.imp_right fun h1 m' hm' => ?_
        -- handed over at this removal: not used / shadowed by the others, which contain all that stays
        have hm'' : m' ∈ rb.reverse ++ after := by
          simp only [dropFailing_ctl, removeMapping_eq, List.mem_append, List.mem_filter] at hm' ⊢; grind
        have hu := usedBy_iff (rb.reverse ++ after) x; have hs := shadowedBy_iff (rb.reverse ++ after) x
        simp only [hoP, Bool.and_eq_true, Bool.not_eq_eq_eq_not, Bool.not_true] at h1
        grind
      · exact Or.inr h1
    · rename_i hf
      simp only [hf]
      exact ih s (m :: after) hx

/-! ### the sub-functions of a step preserve `Consumed` (every layout) -/

/-- no key `m` mentions is in the pass-through list -/
def ConsumedFor (s : State) (m : Mapping) : Prop :=
  ∀ k, (k ∈ m.frm ∨ k ∈ m.to) → k ∉ s.pass

theorem Consumed.of_sub {s t : State} (hc : Consumed s) (hact : ∀ m, m ∈ t.active → m ∈ s.active)
    (hpass : ∀ x, x ∈ t.pass → x ∈ s.pass) : Consumed t :=
  fun m hm k hk hkp => hc m (hact m hm) k hk (hpass k hkp)

/-- releasing one key: a mapping that stays mentions no pass-through key — old ones by hypothesis,
handed-over ones because `remove_mapping` only hands over keys the remaining mappings do not mention -/
theorem releaseKey_consumed {extra : List Key} {s : State} (k0 : Key) (h : IInv extra s) (hc : Consumed s) :
    Consumed (releaseKey s k0).1 := by
  have hdf := dropFailing_spec k0 s s.active.reverse [] h (by simp)
  rw [releaseKey_eq]
  intro m' hm' x hx hxp
  simp only [releaseTail_ctl] at hm'
  rcases dropFailing_pass_new k0 s s.active.reverse [] x ((releaseTail_sub _ k0).2 x hxp) with h1 | h1
  · exact hc m' (hdf.2.actSub m' hm') x hx h1
  · exact hx.elim (h1 m' hm').1 (h1 m' hm').2

theorem releaseAbsorbedKeys_consumed {extra : List Key} (s : State) (h : IInv extra s) (hc : Consumed s) :
    Consumed (releaseAbsorbedKeys s).1 := by
  suffices ∀ (ks : List Key) (s : State), IInv extra s → Consumed s → Consumed (releaseAbsorbedLoop s ks).1 from
    this s.absorbed _ (h.congr rfl rfl rfl rfl) hc
  intro ks
  induction ks with
  | nil => exact fun _ _ hc => hc
  | cons k ks ih =>
    exact fun s h hc => ih _ (releaseKey_spec k h).1 (releaseKey_consumed k h hc)

/-- the release-only part of a firing press (phases 1 and 2 of `add_new_mapping`): with the D5 fix the keys of `m`
are out of pass-through at the end, whatever `release_absorbed_keys` handed back -/
theorem addPhase2_consumed (s : State) (k : Key) (m : Mapping) (h : IInv [] s) (hc : Consumed s) :
    Consumed (addPhase2 (afterConsume s m) k m).1 ∧ ConsumedFor (addPhase2 (afterConsume s m) k m).1 m := by
  have clear (t : State) : Consumed t → Consumed (afterConsume t m) ∧ ConsumedFor (afterConsume t m) m :=
    fun ht => ⟨ht.of_sub (fun _ hx => hx) fun x hx => ((mem_afterConsume t m x).1.mp hx).1,
      fun x hx hxp => have := (mem_afterConsume t m x).1.mp hxp; hx.elim this.2.1 this.2.2⟩
  have c := consume_spec s m h
  have r := ramIf_spec m c.1
  have hr : ∀ x, x ∈ (ramIf m (afterConsume s m)).1.pass → x ∈ (afterConsume s m).pass := (ramIf_sub m _).1
  have hc0 : Consumed (ramIf m (afterConsume s m)).1 := (clear s hc).1.of_sub (by simp) hr
  rw [addPhase2_eq]; split
  · exact clear _ (releaseAbsorbedKeys_consumed _ r.1 hc0)
  · exact ⟨hc0, fun x hx hxp => (clear s hc).2 x hx (hr x hxp)⟩

/-- passing a key through that no mapping in effect mentions -/
theorem passThrough_consumed (s : State) (k0 : Key) (h : IInv [] s) (hc : Consumed s)
    (hnohit : ∀ m, m ∈ s.active → k0 ∉ m.frm ∧ k0 ∉ m.to) : Consumed (passThrough s k0).1 := by
  have hc1 : Consumed (passRel s k0).1 := by
    unfold passRel; split
    · have h1 := releaseActionMappings_spec h
      exact releaseAbsorbedKeys_consumed _ h1.1 (hc.of_sub (by simp) (releaseActionMappings_sub s).1)
    · exact hc
  have hsub := (passRel_spec s k0 h).2.actSub
  rw [passThrough_eq]
  intro m' hm' x hx hxp
  rcases List.mem_append.mp hxp with hxp | hxp
  · exact hc1 m' hm' x hx hxp
  · cases List.mem_singleton.mp hxp
    exact hx.elim (hnohit m' (hsub m' hm')).1 (hnohit m' (hsub m' hm')).2

theorem Consumed.step {L : Layout} {P : List Key} {s : State} (h : Inv L P s)
    (hc : Consumed s) (e : Event) : Consumed (TmVerif.step L s e).1 := by
  have h0 (k) := pressPrep_iinv k h.i
  rcases step_cases L s e with ⟨_, hs⟩ | ⟨k, _, _, hs⟩ | ⟨k, m, _, _, _, hs⟩ | ⟨k, _, _, _, hn, hs⟩ |
    ⟨k, _, _, _, _, hs⟩ <;> rw [hs]
  · exact hc
  · exact releaseKey_consumed k h.i hc
  · have p2 := addPhase2_consumed (pressPrep s k) k m (h0 k) hc
    intro m' hm' x hx hxp
    have h3 := finishFire_pass_sub _ k m x hxp
    simp only [pushInp_ctl, addNewMapping_eq, addPhase1_eq, addPhase4_ctl, addPhase3_ctl, List.mem_append,
      List.mem_singleton] at hm'
    rcases hm' with hm' | hm'
    · exact p2.1 m' hm' x hx h3
    · exact p2.2 x (hm' ▸ hx) h3
  · exact passThrough_consumed _ k (h0 k) hc ((noHit_iff s k).mp hn).1
  · exact hc

/-- I8 for every layout and every history of key events AND release-all calls -/
theorem Reachable.consumed {L : Layout} {x : Sys} (h : Reachable L x) : Consumed x.s :=
  Reachable.invariant (by intro m hm; simp [State.init] at hm) (fun _ _ e hi hc => hc.step hi e) h

/-- I8 for every layout: over every history of key events no key a mapping in effect mentions is passed through -/
theorem ReachableEv.consumed {L : Layout} {x : Sys} (h : ReachableEv L x) : Consumed x.s :=
  h.reachable.consumed

end TmVerif
