/-
Layouts without absorbing mappings: `mapped_absorbed_keys` stays empty, `absorbing_trigger` stays
`None`, `release_absorbed_keys` is a no-op and the mapper's input list is exactly the set of
physically held keys (over histories of key events).
-/
import TmVerif.Proofs.Fired

namespace TmVerif

/-- no mapping of the layout has an absorbing list -/
def NoAbs (L : Layout) : Prop := ∀ m, m ∈ L → m.absorbing = []

/-- nothing absorbed at the moment -/
structure Clean (s : State) : Prop where
  abs : s.absorbed = []
  trig : s.absTrig = none

theorem releaseAbsorbedKeys_clean {s : State} (h : Clean s) : releaseAbsorbedKeys s = (s, []) := by
  obtain ⟨inp, act, pass, mapped, absd, at_, rt⟩ := s
  have h1 := h.abs; have h2 := h.trig
  simp only at h1 h2
  subst h1; subst h2
  rfl

theorem afterConsume_frame (s : State) (m : Mapping) :
    (afterConsume s m).inp = s.inp ∧ (afterConsume s m).active = s.active ∧
    (afterConsume s m).absorbed = s.absorbed ∧ (afterConsume s m).absTrig = s.absTrig ∧
    (afterConsume s m).repTrig = s.repTrig := afterConsume_ctl s m

/-- (D5 fix) in a clean state whose pass-through keys `m` does not mention — the state right after the
first consumption — `release_absorbed_keys` and the second consumption are no-ops -/
theorem addPhase2_clean {s : State} (k : Key) (m : Mapping) (h : Clean s)
    (hp : ∀ x, x ∈ s.pass → x ∉ m.frm ∧ x ∉ m.to) :
    addPhase2 s k m = if producesActionKey m then releaseActionMappings s else (s, []) := by
  show addPhase2 s k m = ramIf m s
  rw [addPhase2_eq]; split
  · rw [releaseAbsorbedKeys_clean ⟨by simp [h.abs], by simp [h.trig]⟩]
    have n := afterConsume_noop (ramIf m s).1 m fun x hx => hp x ((ramIf_sub m s).1 x hx)
    rw [n.1, n.2]; simp
  · rfl

/-- the extra invariant of layouts without absorbing: clean, and every physically held key is an input key -/
structure NAInv (P : List Key) (s : State) : Prop where
  clean : Clean s
  pInp : ∀ k, k ∈ P → k ∈ s.inp

theorem NAInv.init : NAInv [] State.init := ⟨⟨rfl, rfl⟩, by simp⟩

theorem NAInv.step {L : Layout} {P : List Key} {s : State} (hL : NoAbs L) (hn : NAInv P s) (e : Event) :
    NAInv (applyEv P e) (step L s e).1 := by
  have hp := hn.pInp; have ha := hn.clean.abs; have ht := hn.clean.trig
  rcases step_cases L s e with ⟨hign, hs⟩ | ⟨k, rfl, hk, hs⟩ | ⟨k, m, rfl, hk, hf, hs⟩ | ⟨k, rfl, hk, hf, _, hs⟩ |
    ⟨k, rfl, hk, hf, _, hs⟩ <;> rw [hs]
  · refine ⟨hn.clean, ?_⟩
    cases e <;> simp only [ignored] at hign <;> simp <;> grind
  · exact ⟨⟨by simp [ha], by simp [ht]⟩, by simp; grind⟩
  · have hm := hL m (findMapping_some hf).1
    exact ⟨⟨by simp [ha, hm, addAbsorbed], by simp [ht, hm]⟩, by simp [ha]; grind⟩
  · exact ⟨⟨by simp [passThrough_eq, ha], by simp [passThrough_eq, ht]⟩, by simp [passThrough_eq, ha]; grind⟩
  · exact ⟨⟨by simp [ha], by simp [ht]⟩, by simp; grind⟩

/-- reachable by key events only (no release-all in between) -/
def ReachableEv (L : Layout) (x : Sys) : Prop := ∃ evs : List Event, x = Sys.run L Sys.init (evs.map Op.ev)

theorem ReachableEv.reachable {L : Layout} {x : Sys} (h : ReachableEv L x) : Reachable L x := by
  obtain ⟨evs, rfl⟩ := h; exact ⟨_, rfl⟩

theorem ReachableEv.init (L : Layout) : ReachableEv L Sys.init := ⟨[], rfl⟩

theorem ReachableEv.next {L : Layout} {x : Sys} (h : ReachableEv L x) (e : Event) :
    ReachableEv L (x.next L (Op.ev e)) := by
  obtain ⟨evs, rfl⟩ := h
  exact ⟨evs ++ [e], by simp [Sys.run, List.foldl_append]⟩

theorem ReachableEv.nainv {L : Layout} (hL : NoAbs L) {x : Sys} (h : ReachableEv L x) : NAInv x.P x.s := by
  obtain ⟨evs, rfl⟩ := h
  suffices ∀ x : Sys, NAInv x.P x.s → NAInv (Sys.run L x (evs.map Op.ev)).P (Sys.run L x (evs.map Op.ev)).s from
    this _ NAInv.init
  induction evs with
  | nil => exact fun _ h => h
  | cons e es ih => exact fun x hn => ih _ (NAInv.step hL hn e)

/-- in a layout without absorbing, over key-event histories, the mapper's input list is exactly the
set of physically held keys -/
theorem ReachableEv.inp_iff {L : Layout} (hL : NoAbs L) {x : Sys} (h : ReachableEv L x) (k : Key) :
    k ∈ x.s.inp ↔ k ∈ x.P :=
  ⟨h.reachable.sinv.inv.inpP k, (h.nainv hL).pInp k⟩

end TmVerif
