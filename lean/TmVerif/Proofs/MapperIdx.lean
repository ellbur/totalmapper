/-
The index-faithful twin (`Model/MapperIdx.lean`) equals the structural mapper model
(`Model/Mapper.lean`): every index-faithful function returns `some` of its structural counterpart,
under the precondition its caller establishes.  Consequently no index of `key_transforms.rs` is ever
out of bounds, no `Vec::remove` is out of range, no `usize` subtraction underflows and no negative
`isize` is used as an index — for EVERY state (no invariant is needed: the safety of each loop is local).
-/
import TmVerif.Model.MapperIdxOps
import TmVerif.Proofs.Inv

namespace TmVerif

/-! ## primitives -/

theorem usizeSub_of_le {a b : Nat} (h : b ≤ a) : usizeSub a b = some (a - b) := by
  simp [usizeSub, h]

theorem usizeSub_of_lt {a b : Nat} (h : a < b) : usizeSub a b = none := by
  have : ¬ b ≤ a := by omega
  simp [usizeSub, this]

theorem vecGet_eq {α : Type} (v : List α) (i : Nat) : vecGet v i = v[i]? := rfl

/-- index `pre.length` of `pre ++ x :: suf` -/
theorem vecGet_mid {α : Type} (pre : List α) (x : α) (suf : List α) :
    vecGet (pre ++ x :: suf) pre.length = some x := by
  simp [vecGet]

theorem vecRemove_mid {α : Type} (pre : List α) (x : α) (suf : List α) :
    vecRemove (pre ++ x :: suf) pre.length = some (pre ++ suf) := by
  have : (pre ++ x :: suf).eraseIdx pre.length = pre ++ suf := by
    rw [List.eraseIdx_append_of_length_le (Nat.le_refl _)]; simp
  simp [vecRemove, this]

theorem vecRemove_eq_none {α : Type} (v : List α) (i : Nat) (h : v.length ≤ i) : vecRemove v i = none := by
  simp [vecRemove, List.getElem?_eq_none h]

theorem isizeToUsize_ofNat (n : Nat) : isizeToUsize (n : Int) = some n := rfl

theorem isizeToUsize_neg {i : Int} (h : i < 0) : isizeToUsize i = none := by
  cases i with
  | ofNat n => exact absurd h (by simp)
  | negSucc n => rfl

/-! ## `final_key` -/

theorem finalKeyIdx_eq (v : List Key) : finalKeyIdx v = v.getLast? := by
  unfold finalKeyIdx
  cases v with
  | nil => rfl
  | cons a l =>
    rw [usizeSub_of_le (by simp)]
    simp [vecGet, List.getLast?_eq_getElem?]

theorem finalKeyIdx_mapping (m : Mapping) : finalKeyIdx m.frm = finalKey? m := finalKeyIdx_eq m.frm

/-! ## the duplicate loops of `make_hashed_layout` -/

theorem dupInnerIdx_spec (v : List Key) (i : Nat) (hi : i < v.length) (fuel j : Nat) (hj : j + fuel = v.length) :
    dupInnerIdx v i j fuel = some ((v.drop j).contains v[i]) := by
  induction fuel generalizing j with
  | zero => simp [dupInnerIdx, List.drop_of_length_le (show v.length ≤ j by omega)]
  | succ fuel ih =>
    have hjl : j < v.length := by omega
    rw [dupInnerIdx, vecGet, vecGet, List.getElem?_eq_getElem hi, List.getElem?_eq_getElem hjl]
    simp only
    rw [ih (j + 1) (by omega), List.drop_eq_getElem_cons hjl, List.contains_cons]
    by_cases h : (v[i] == v[j]) = true
    · simp [h]
    · simp [h]

theorem dupOuterIdx_spec (v : List Key) (fuel i : Nat) (hi : i + fuel = v.length) :
    dupOuterIdx v i fuel = some (!decide (v.drop i).Nodup) := by
  induction fuel generalizing i with
  | zero => simp [dupOuterIdx, List.drop_of_length_le (show v.length ≤ i by omega)]
  | succ fuel ih =>
    have hil : i < v.length := by omega
    have hd : (v.drop i).Nodup ↔ v[i] ∉ v.drop (i + 1) ∧ (v.drop (i + 1)).Nodup := by
      rw [List.drop_eq_getElem_cons hil]; exact List.nodup_cons
    rw [dupOuterIdx, dupInnerIdx_spec v i hil _ _ (by omega)]
    by_cases h : (List.drop (i + 1) v).contains v[i] = true
    · simp only [h]
      simp at h
      simp [hd, h]
    · simp only [h]
      rw [ih (i + 1) (by omega)]
      simp at h
      simp [hd, h]

/-- the duplicate loops never index out of bounds, and find a duplicate iff there is one -/
theorem hasDupIdx_eq (v : List Key) : hasDupIdx v = some (!decide v.Nodup) := by
  have := dupOuterIdx_spec v v.length 0 (by simp)
  simpa [hasDupIdx] using this

theorem checkDupsIdx_eq (L : List Mapping) :
    checkDupsIdx L = if L.all (fun m => decide m.frm.Nodup && decide m.to.Nodup) then some () else none := by
  induction L with
  | nil => rfl
  | cons m ms ih =>
    rw [checkDupsIdx, hasDupIdx_eq, hasDupIdx_eq, ih]
    by_cases h1 : m.frm.Nodup <;> by_cases h2 : m.to.Nodup <;> simp [h1, h2]

theorem hashLoopIdx_isSome (L : List Mapping) :
    (hashLoopIdx L).isSome = L.all (fun m => m.frm != []) := by
  induction L with
  | nil => rfl
  | cons m ms ih =>
    rw [hashLoopIdx, finalKeyIdx_eq]
    cases hm : m.frm.getLast? with
    | none =>
      have : m.frm = [] := by simpa using hm
      simp [this]
    | some last =>
      have : m.frm ≠ [] := by intro e; simp [e] at hm
      cases hr : hashLoopIdx ms with
      | none => rw [hr] at ih; simp [← ih]
      | some h => rw [hr] at ih; simp [← ih, this]

/-- the hash map built by the index-faithful `make_hashed_layout` has exactly the groups the structural
model uses (`group L k`) -/
theorem hashLoopIdx_lookup (L : List Mapping) (H : List (Key × Mapping)) (h : hashLoopIdx L = some H) (k : Key) :
    lookupIdx H k = group L k := by
  induction L generalizing H with
  | nil => simp [hashLoopIdx] at h; subst h; rfl
  | cons m ms ih =>
    rw [hashLoopIdx, finalKeyIdx_eq] at h
    cases hm : m.frm.getLast? with
    | none => simp [hm] at h
    | some last =>
      cases hr : hashLoopIdx ms with
      | none => simp [hm, hr] at h
      | some H' =>
        simp [hm, hr] at h
        subst h
        have := ih H' hr
        simp only [lookupIdx, group, finalKey?] at this ⊢
        simp only [List.filter_cons, hm]
        by_cases hk : last = k
        · simp [hk, this]
        · simp [hk, this]

theorem wf_split (L : Layout) :
    Layout.wf L = ((L.all fun m => decide m.frm.Nodup && decide m.to.Nodup) && L.all fun m => m.frm != []) := by
  induction L with
  | nil => rfl
  | cons m ms ih =>
    simp only [Layout.wf, List.all_cons] at ih ⊢
    rw [ih]
    simp only [Mapping.wf]
    generalize (m.frm != []) = a, decide m.frm.Nodup = b, decide m.to.Nodup = c,
      (ms.all fun m => decide m.frm.Nodup && decide m.to.Nodup) = d, (ms.all fun m => m.frm != []) = e
    cases a <;> cases b <;> cases c <;> cases d <;> cases e <;> rfl

/-- `make_hashed_layout` returns (does not panic) exactly on the well-formed layouts -/
theorem makeHashedLayoutIdx_isSome (L : Layout) : (makeHashedLayoutIdx L).isSome = Layout.wf L := by
  unfold makeHashedLayoutIdx
  rw [checkDupsIdx_eq, wf_split]
  by_cases h : (L.all fun m => decide m.frm.Nodup && decide m.to.Nodup) = true
  · simp only [h, if_true, hashLoopIdx_isSome, Bool.true_and]
  · simp only [h]
    simp

theorem makeHashedLayoutIdx_lookup {L : Layout} {H : List (Key × Mapping)}
    (h : makeHashedLayoutIdx L = some H) (k : Key) : lookupIdx H k = group L k := by
  unfold makeHashedLayoutIdx at h
  cases hc : checkDupsIdx L with
  | none => simp [hc] at h
  | some u => simp [hc] at h; exact hashLoopIdx_lookup L H h k

/-- `for_layout`: the index-faithful constructor panics exactly when the structural one does, and
returns the same state otherwise -/
theorem forLayoutIdx_eq (L : Layout) : forLayoutIdx L = forLayout L := by
  have h := makeHashedLayoutIdx_isSome L
  unfold forLayoutIdx forLayout
  cases hm : makeHashedLayoutIdx L with
  | none => rw [hm] at h; simp [← h]
  | some H => rw [hm] at h; simp [← h]

theorem forLayoutIdx_none_iff (L : Layout) : forLayoutIdx L = none ↔ forLayout L = none := by
  rw [forLayoutIdx_eq]

/-! ## `is_action_mapping`, `release_action_mappings` -/

theorem isActionMappingIdx_eq (m : Mapping) : isActionMappingIdx m = some (isActionMapping m) := by
  unfold isActionMappingIdx isActionMapping
  cases hto : m.to with
  | nil => rfl
  | cons a l =>
    have hne : ((a :: l).length == 0) = false := by simp
    rw [hne, usizeSub_of_le (by simp)]
    simp only [vecGet, List.getLast?_eq_getElem?]
    cases h : (a :: l)[(a :: l).length - 1]? with
    | none => simp at h
    | some k => simp

theorem keysToReleaseIdx_eq (mapped acc : List Key) (ms : List Mapping) :
    keysToReleaseIdx mapped acc ms = some (keysToRelease mapped acc ms) := by
  induction ms generalizing acc with
  | nil => rfl
  | cons m ms ih =>
    rw [keysToReleaseIdx, isActionMappingIdx_eq, keysToRelease]
    simp only
    split
    · exact ih _
    · exact ih _

theorem releaseActionMappingsIdx_eq (s : State) :
    releaseActionMappingsIdx s = some (releaseActionMappings s) := by
  unfold releaseActionMappingsIdx releaseActionMappings
  rw [keysToReleaseIdx_eq]


/-! ## `remove_mapping` -/

/-- the inner loop past the skipped index: no index out of bounds, scans the rest -/
theorem anyOtherIdx_after (sel : Mapping → List Key) (active : List Mapping) (i : Nat) (k : Key)
    (fuel j : Nat) (hj : j + fuel = active.length) (hij : i < j) :
    anyOtherIdx sel active i k j fuel = some ((active.drop j).any fun m => (sel m).contains k) := by
  induction fuel generalizing j with
  | zero => simp [anyOtherIdx, List.drop_of_length_le (show active.length ≤ j by omega)]
  | succ fuel ih =>
    have hjl : j < active.length := by omega
    have hne : (j != i) = true := by simp; omega
    rw [anyOtherIdx, hne, vecGet, List.getElem?_eq_getElem hjl]
    simp only [if_true]
    rw [ih (j + 1) (by omega) (by omega), List.drop_eq_getElem_cons hjl, List.any_cons]
    by_cases h : k ∈ sel active[j]
    · simp [h]
    · simp [h]

/-- the inner loop of `remove_mapping` from `j ≤ i` on, where `i` is the position of the mapping being
removed: no index out of bounds; the flag is "some OTHER mapping (from position `j` on) has `k`" -/
theorem anyOtherIdx_before (sel : Mapping → List Key) (before : List Mapping) (m : Mapping) (after : List Mapping)
    (k : Key) (fuel j : Nat) (hj : j + fuel = (before ++ m :: after).length) (hij : j ≤ before.length) :
    anyOtherIdx sel (before ++ m :: after) before.length k j fuel =
      some ((before.drop j ++ after).any fun m => (sel m).contains k) := by
  induction fuel generalizing j with
  | zero => simp at hj; omega
  | succ fuel ih =>
    by_cases hje : j = before.length
    · subst hje
      have hne : (before.length != before.length) = false := by simp
      rw [anyOtherIdx, hne]
      simp only [Bool.false_eq_true, if_false]
      rw [anyOtherIdx_after sel _ _ k fuel _ (by omega) (by omega)]
      simp
    · have hjl : j < before.length := by omega
      have hne : (j != before.length) = true := by simp; omega
      rw [anyOtherIdx, hne, vecGet, List.getElem?_append_left hjl, List.getElem?_eq_getElem hjl]
      simp only [if_true]
      rw [ih (j + 1) (by omega) (by omega), List.drop_eq_getElem_cons hjl, List.cons_append, List.any_cons]
      by_cases h : k ∈ sel before[j]
      · simp [h]
      · simp [h]

theorem stillUsedIdx_eq (before : List Mapping) (m : Mapping) (after : List Mapping) (k : Key) :
    anyOtherIdx Mapping.to (before ++ m :: after) before.length k 0 (before ++ m :: after).length =
      some (usedBy (before ++ after) k) := by
  rw [anyOtherIdx_before Mapping.to before m after k _ 0 (by simp) (by simp)]
  simp [usedBy]

theorem stillShadowedIdx_eq (before : List Mapping) (m : Mapping) (after : List Mapping) (k : Key) :
    anyOtherIdx Mapping.frm (before ++ m :: after) before.length k 0 (before ++ m :: after).length =
      some (shadowedBy (before ++ after) k) := by
  rw [anyOtherIdx_before Mapping.frm before m after k _ 0 (by simp) (by simp)]
  simp [shadowedBy]


theorem vecGet_mid' {α : Type} (pre : List α) (x : α) (suf : List α) (n : Nat) (h : pre.length = n) :
    vecGet (pre ++ x :: suf) n = some x := by subst h; exact vecGet_mid pre x suf

theorem vecRemove_mid' {α : Type} (pre : List α) (x : α) (suf : List α) (n : Nat) (h : pre.length = n) :
    vecRemove (pre ++ x :: suf) n = some (pre ++ suf) := by subst h; exact vecRemove_mid pre x suf

theorem removeScan_cons (inp : List Key) (others : List Mapping) (rk k : Key) (ks : List Key) :
    removeScan inp others rk (k :: ks) =
      (if usedBy others k then removeScan inp others rk ks
       else if inp.contains k && k != rk then
         if !shadowedBy others k then (k :: (removeScan inp others rk ks).1, (removeScan inp others rk ks).2)
         else ((removeScan inp others rk ks).1, Event.released k :: (removeScan inp others rk ks).2)
       else ((removeScan inp others rk ks).1, Event.released k :: (removeScan inp others rk ks).2)) := by
  rw [removeScan]
  repeat' split
  all_goals rfl

/-- The descending loop of `remove_mapping`, started at index `rp.length - 1` on the vector
`rp.reverse ++ suf` (`rp` = the part still to visit, reversed; `suf` = the part already visited and kept):
no index out of bounds, no `remove` out of range, and the result is the structural `removeScan`. -/
theorem removeLoopIdx_spec (inp : List Key) (before : List Mapping) (m : Mapping) (after : List Mapping) (rk : Key)
    (rp suf pass : List Key) (res : List Event) :
    removeLoopIdx inp (before ++ m :: after) before.length rk rp.length (rp.reverse ++ suf) pass res =
      some (rp.reverse.filter (usedBy (before ++ after)) ++ suf,
            pass ++ (removeScan inp (before ++ after) rk rp).1,
            res ++ (removeScan inp (before ++ after) rk rp).2) := by
  induction rp generalizing suf pass res with
  | nil => simp [removeLoopIdx, removeScan]
  | cons k r ih =>
    have e : (k :: r).reverse ++ suf = r.reverse ++ k :: suf := by simp
    rw [e, List.length_cons, removeLoopIdx, vecGet_mid' _ _ _ _ (by simp)]
    simp only
    rw [stillUsedIdx_eq, removeScan_cons]
    by_cases hu : usedBy (before ++ after) k = true
    · simp only [hu, if_true]
      rw [ih]
      simp [hu]
    · simp only [hu]
      have hu' : usedBy (before ++ after) k = false := by simpa using hu
      rw [vecRemove_mid' _ _ _ _ (by simp)]
      by_cases hc : (inp.contains k && k != rk) = true
      · simp only [hc, if_true]
        rw [stillShadowedIdx_eq]
        by_cases hs : shadowedBy (before ++ after) k = true
        · simp only [hs]
          rw [ih]
          simp [hu']
        · have hs' : shadowedBy (before ++ after) k = false := by simpa using hs
          simp only [hs']
          rw [ih]
          simp [hu']
      · have hc' : (inp.contains k && k != rk) = false := by simpa using hc
        simp only [hc', Bool.false_eq_true, if_false]
        rw [ih]
        simp [hu']

/-- `remove_mapping(state, i, removed_key)` with `i` the position of a mapping of the active list:
never panics and equals the structural `removeMapping` -/
theorem removeMappingIdx_eq (s : State) (before : List Mapping) (m : Mapping) (after : List Mapping) (rk : Key)
    (hact : s.active = before ++ m :: after) :
    removeMappingIdx s before.length rk = some (removeMapping s before after rk) := by
  unfold removeMappingIdx removeMapping
  have := removeLoopIdx_spec s.inp before m after rk s.mapped.reverse [] s.pass []
  simp only [List.length_reverse, List.reverse_reverse, List.append_nil, List.nil_append] at this
  rw [hact, this]
  simp only
  rw [vecRemove_mid]


/-- the same with the precondition in the form the caller has it -/
theorem removeMappingIdx_eq' (s : State) (before : List Mapping) (m : Mapping) (after : List Mapping) (i : Nat)
    (rk : Key) (hact : s.active = before ++ [m] ++ after) (hi : i = before.length) :
    removeMappingIdx s i rk = some (removeMapping s before after rk) := by
  subst hi
  exact removeMappingIdx_eq s before m after rk (by simpa using hact)

/-- the precondition is needed: with an index past the end, `remove_mapping` panics (its final
`active_mappings.remove(i)`) -/
theorem removeMappingIdx_out_of_range (s : State) (i : Nat) (rk : Key) (h : s.active.length ≤ i) :
    removeMappingIdx s i rk = none := by
  unfold removeMappingIdx
  rw [vecRemove_eq_none _ _ h]
  split <;> rfl

/-! ## the `while i >= 0` loop -/

theorem dropFailing_cons (k : Key) (s : State) (m : Mapping) (rb after : List Mapping) :
    dropFailing k s (m :: rb) after =
      (if failsWhenReleased m.frm k then
        ((dropFailing k (removeMapping s rb.reverse after k).1 rb after).1,
         (removeMapping s rb.reverse after k).2 ++ (dropFailing k (removeMapping s rb.reverse after k).1 rb after).2)
       else dropFailing k s rb (m :: after)) := by
  rw [dropFailing]

/-- The `while i >= 0` loop started at `i = rb.length - 1` in a state whose active list is
`rb.reverse ++ after` (`rb` = the mappings still to visit, reversed): every `active_mappings[i as usize]`
is in bounds — although `remove_mapping` shortens the vector between two iterations —, `i as usize` is
never applied to a negative `i`, `rb.length + 1` loop tests suffice, and the result is the structural
`dropFailing`. -/
theorem whileIdx_spec (k : Key) (rb : List Mapping) (after : List Mapping) (s : State) (events : List Event)
    (fuel : Nat) (hact : s.active = rb.reverse ++ after) (hf : rb.length + 1 ≤ fuel) :
    whileIdx k fuel ((rb.length : Int) - 1) s events =
      some ((dropFailing k s rb after).1, events ++ (dropFailing k s rb after).2) := by
  induction rb generalizing after s events fuel with
  | nil =>
    obtain ⟨f, rfl⟩ : ∃ f, fuel = f + 1 := ⟨fuel - 1, by omega⟩
    have hs : ({ s with active := after } : State) = s := by
      simp at hact; rw [← hact]
    simp [whileIdx, dropFailing, hs]
  | cons m rb ih =>
    obtain ⟨f, rfl⟩ : ∃ f, fuel = f + 1 := ⟨fuel - 1, by simp at hf; omega⟩
    have hi : ((List.length (m :: rb) : Nat) : Int) - 1 = (rb.length : Int) := by simp
    have hact' : s.active = rb.reverse ++ m :: after := by rw [hact]; simp
    have hge : ((rb.length : Int) ≥ 0) := by omega
    rw [hi, whileIdx, if_pos hge, isizeToUsize_ofNat]
    simp only
    rw [hact', vecGet_mid' _ _ _ _ (by simp), dropFailing_cons]
    simp only
    by_cases hfail : failsWhenReleased m.frm k = true
    · simp only [hfail, if_true]
      have hrm := removeMappingIdx_eq s rb.reverse m after k hact'
      rw [List.length_reverse] at hrm
      rw [hrm]
      simp only
      rw [ih after _ _ f (by rw [removeMapping_eq]) (by simp at hf; omega)]
      simp
    · simp only [hfail]
      exact ih (m :: after) s events f hact' (by simp at hf; omega)

/-- `let mut i: isize = state.active_mappings.len() as isize - 1; while i >= 0 { … }` never panics and
equals the structural `dropFailing` — for every state -/
theorem dropFailingIdx_eq (k : Key) (s : State) :
    dropFailingIdx k s = some (dropFailing k s s.active.reverse []) := by
  unfold dropFailingIdx
  have := whileIdx_spec k s.active.reverse [] s [] (s.active.length + 1) (by simp) (by simp)
  simp only [List.length_reverse, List.nil_append] at this
  exact this


/-! ## the descending scan over `pass_through_keys` -/

/-- The scan started at index `rp.length - 1` on `rp.reverse ++ suf`: no index out of bounds, the
`remove(i)` is in range, and it removes the first occurrence of `k` in `rp` (= the last one in `rp.reverse`). -/
theorem passScanIdx_spec (k : Key) (rp suf : List Key) :
    passScanIdx k rp.length (rp.reverse ++ suf) =
      some (if rp.contains k then ((rp.erase k).reverse ++ suf, [Event.released k]) else (rp.reverse ++ suf, [])) := by
  induction rp generalizing suf with
  | nil => simp [passScanIdx]
  | cons x r ih =>
    have e : (x :: r).reverse ++ suf = r.reverse ++ x :: suf := by simp
    rw [e, List.length_cons, passScanIdx, vecGet_mid' _ _ _ _ (by simp)]
    simp only
    by_cases hx : x = k
    · subst hx
      rw [vecRemove_mid' _ _ _ _ (by simp)]
      simp
    · have hx' : (x == k) = false := by simpa using hx
      simp only [hx', Bool.false_eq_true, if_false]
      rw [ih]
      have hkx : ¬ k = x := fun h => hx h.symm
      by_cases hc : k ∈ r
      · simp [hc, hx']
      · simp [hc, hkx]

/-- `for i in (0 .. pass.len()).rev() { if pass[i] == k { …; pass.remove(i); break } }` followed by the
`retain` on the input keys: never panics and equals the structural `releaseTail` — for every state -/
theorem releaseTailIdx_eq (s : State) (k : Key) : releaseTailIdx s k = some (releaseTail s k) := by
  unfold releaseTailIdx releaseTail
  have := passScanIdx_spec k s.pass.reverse []
  simp only [List.length_reverse, List.reverse_reverse, List.append_nil] at this
  rw [this]
  by_cases hc : k ∈ s.pass
  · simp [hc, removeLast]
  · simp [hc]

theorem releaseKeyIdx_eq (s : State) (k : Key) : releaseKeyIdx s k = some (releaseKey s k) := by
  unfold releaseKeyIdx
  rw [dropFailingIdx_eq]
  simp only
  rw [releaseTailIdx_eq]
  rfl

theorem releaseAbsorbedLoopIdx_eq (s : State) (ks : List Key) :
    releaseAbsorbedLoopIdx s ks = some (releaseAbsorbedLoop s ks) := by
  induction ks generalizing s with
  | nil => rfl
  | cons k ks ih =>
    rw [releaseAbsorbedLoopIdx, releaseKeyIdx_eq]
    simp only
    rw [ih]
    rfl

theorem releaseAbsorbedKeysIdx_eq (s : State) : releaseAbsorbedKeysIdx s = some (releaseAbsorbedKeys s) := by
  unfold releaseAbsorbedKeysIdx releaseAbsorbedKeys
  exact releaseAbsorbedLoopIdx_eq _ _


/-! ## `add_new_mapping`, `newly_press`, `newly_release`, `step`, `release_all` -/

theorem addPhase2Idx_eq (s : State) (newKey : Key) (m : Mapping) :
    addPhase2Idx s newKey m = some (addPhase2 s newKey m) := by
  unfold addPhase2Idx addPhase2
  have h1 : (if producesActionKey m then releaseActionMappingsIdx s else some (s, [])) =
      some (if producesActionKey m then releaseActionMappings s else (s, [])) := by
    split
    · rw [releaseActionMappingsIdx_eq]
    · rfl
  rw [h1]
  generalize (if producesActionKey m then releaseActionMappings s else (s, [])) = r1
  simp only
  split
  · rw [releaseAbsorbedKeysIdx_eq]
  · rfl

theorem addNewMappingIdx_eq (s : State) (newKey : Key) (m : Mapping) :
    addNewMappingIdx s newKey m = some (addNewMapping s newKey m) := by
  unfold addNewMappingIdx addNewMapping
  rw [addPhase2Idx_eq]

theorem passThroughIdx_eq (s : State) (k : Key) : passThroughIdx s k = some (passThrough s k) := by
  unfold passThroughIdx passThrough
  split
  · rw [releaseActionMappingsIdx_eq]
    simp only
    rw [releaseAbsorbedKeysIdx_eq]
  · rfl

theorem newlyPressIdx_eq (L : Layout) (s : State) (k : Key) :
    newlyPressIdx L s k = some (newlyPress L s k) := by
  unfold newlyPressIdx newlyPress
  cases findMapping L s k with
  | some m =>
    simp only
    rw [addNewMappingIdx_eq]
  | none =>
    simp only
    split
    · rw [passThroughIdx_eq]
    · rfl

theorem newlyReleaseIdx_eq (s : State) (k : Key) : newlyReleaseIdx s k = some (newlyRelease s k) := by
  unfold newlyReleaseIdx newlyRelease
  rw [releaseKeyIdx_eq]

/-- `Mapper::step` never panics, from EVERY state and for every layout, and equals the structural model -/
theorem stepIdx_eq (L : Layout) (s : State) (e : Event) : stepIdx L s e = some (step L s e) := by
  unfold stepIdx TmVerif.step
  cases e with
  | pressed k =>
    simp only
    split
    · exact newlyPressIdx_eq L s k
    · rfl
  | released k =>
    simp only
    split
    · exact newlyReleaseIdx_eq s k
    · rfl

theorem releaseAllLoopIdx_eq (L : Layout) (s : State) (ks : List Key) :
    releaseAllLoopIdx L s ks = some (releaseAllLoop L s ks) := by
  induction ks generalizing s with
  | nil => rfl
  | cons k ks ih =>
    rw [releaseAllLoopIdx, stepIdx_eq]
    simp only
    rw [ih]
    rfl

/-- `Mapper::release_all` never panics, from EVERY state, and equals the structural model -/
theorem releaseAllIdx_eq (L : Layout) (s : State) : releaseAllIdx L s = some (releaseAll L s) :=
  releaseAllLoopIdx_eq L s s.inp

theorem runEvIdx_eq (L : Layout) (s : State) (es : List Event) : runEvIdx L s es = some (run L s es) := by
  induction es generalizing s with
  | nil => rfl
  | cons e es ih =>
    rw [runEvIdx, stepIdx_eq]
    simp only
    rw [ih]
    rfl

theorem opIdx_eq (L : Layout) (s : State) (op : Op) : opIdx L s op = some (opStruct L s op) := by
  cases op with
  | ev e => rw [opIdx, stepIdx_eq]; rfl
  | relAll => exact releaseAllIdx_eq L s

theorem runIdx_eq (L : Layout) (s : State) (ops : List Op) : runIdx L s ops = some (runStruct L s ops) := by
  induction ops generalizing s with
  | nil => rfl
  | cons op ops ih =>
    rw [runIdx, opIdx_eq]
    simp only
    rw [ih]
    rfl

/-- `runStruct` is the state component / the outputs of `Sys.run` / `Sys.next` of `Proofs/Reach.lean` -/
theorem opStruct_next (L : Layout) (x : Sys) (op : Op) :
    (opStruct L x.s op).1 = (x.next L op).s ∧ (opStruct L x.s op).2 = x.out L op := by
  cases op <;> exact ⟨rfl, rfl⟩

theorem runStruct_state (L : Layout) (x : Sys) (ops : List Op) :
    (runStruct L x.s ops).1 = (x.run L ops).s := by
  induction ops generalizing x with
  | nil => rfl
  | cons op ops ih =>
    rw [runStruct]
    simp only [Sys.run, List.foldl_cons]
    rw [(opStruct_next L x op).1]
    exact ih (x.next L op)


theorem runStruct_outs (L : Layout) (x : Sys) (ops : List Op) :
    (runStruct L x.s ops).2.flatten = Sys.outs L x ops := by
  induction ops generalizing x with
  | nil => rfl
  | cons op ops ih =>
    rw [runStruct]
    simp only [List.flatten_cons, Sys.outs]
    rw [(opStruct_next L x op).2, (opStruct_next L x op).1]
    exact congrArg _ (ih (x.next L op))

end TmVerif
