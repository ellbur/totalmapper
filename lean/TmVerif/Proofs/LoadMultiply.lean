/-
`MultiplyIter` (the odometer over alias definitions): the fuelled iteration of the exact `next()`
body equals the declarative cartesian product `cart`, first index fastest.
-/
import TmVerif.Proofs.LoadBasic

namespace TmVerif
namespace Convert
open Outcome

/-- The cartesian product `{0..q₀-1} × {0..q₁-1} × …` as a list, FIRST index fastest:
`cart [2,2] = [[0,0],[1,0],[0,1],[1,1]]`; `cart [] = [[]]`. -/
def cart : List Nat → List (List Nat)
  | [] => [[]]
  | q :: qs => (cart qs).flatMap fun t => (List.range q).map fun i => i :: t

/-! ### the body of `next()` on the first digit -/

theorem advance_lt {q : Nat} {qs : List Nat} {p : Nat} {t : List Nat} (hq : q ≠ 0) (hp : p < q - 1) :
    advance (q :: qs) (p :: t) = ok (some ((p + 1) :: t)) := by
  simp [advance, hq, hp]

theorem advance_last {q : Nat} {qs : List Nat} {t : List Nat} (hq : q ≠ 0) :
    advance (q :: qs) ((q - 1) :: t) = (advance qs t).bind fun r => ok (r.map fun ps' => 0 :: ps') := by
  simp [advance, hq]

/-- while the first digit is below `q-1` only it moves -/
theorem loop_cycle (q : Nat) (qs : List Nat) (hq : q ≠ 0) (t : List Nat) :
    ∀ (d p F : Nat), p + d + 1 = q →
      multiplyLoop (q :: qs) (F + d) (p :: t) =
        (multiplyLoop (q :: qs) F ((q - 1) :: t)).bind fun r =>
          ok ((List.range' p d).map (fun i => i :: t) ++ r) := by
  intro d
  induction d with
  | zero =>
    intro p F h
    have : p = q - 1 := by omega
    subst this
    cases multiplyLoop (q :: qs) F ((q - 1) :: t) <;> simp
  | succ d ih =>
    intro p F h
    have hp : p < q - 1 := by omega
    have : F + (d + 1) = (F + d) + 1 := by omega
    rw [this, multiplyLoop, advance_lt hq hp]
    simp only [bind_ok]
    rw [ih (p + 1) F (by omega)]
    cases multiplyLoop (q :: qs) F ((q - 1) :: t) <;> simp [List.range'_succ]

/-- at `q-1` the first digit wraps and the rest advances -/
theorem loop_wrap (q : Nat) (qs : List Nat) (hq : q ≠ 0) (t : List Nat) (F : Nat) :
    multiplyLoop (q :: qs) (F + 1) ((q - 1) :: t) =
      (advance qs t).bind fun r =>
        match r with
        | none => ok [(q - 1) :: t]
        | some t' => (multiplyLoop (q :: qs) F (0 :: t')).bind fun rest => ok (((q - 1) :: t) :: rest) := by
  rw [multiplyLoop, advance_last hq]
  cases advance qs t with
  | ok r => cases r <;> simp
  | error => simp
  | panic => simp

theorem range'_zero_append_last (q : Nat) (hq : q ≠ 0) (t : List Nat) :
    (List.range' 0 (q - 1)).map (fun i => i :: t) ++ [(q - 1) :: t] = (List.range q).map fun i => i :: t := by
  obtain ⟨n, rfl⟩ : ∃ n, q = n + 1 := ⟨q - 1, by omega⟩
  simp [List.range_succ, List.range_eq_range']

/-- the loop over `q :: qs` simulates the loop over `qs`: each tuple of the latter is expanded into
its `q` extensions -/
theorem loop_sim (q : Nat) (qs : List Nat) (hq : q ≠ 0) :
    ∀ (fuelT : Nat) (t : List Nat) (L : List (List Nat)), multiplyLoop qs fuelT t = ok L →
      ∀ F, q * L.length ≤ F →
        multiplyLoop (q :: qs) F (0 :: t) = ok (L.flatMap fun t' => (List.range q).map fun i => i :: t') := by
  intro fuelT
  induction fuelT with
  | zero => intro t L h; simp [multiplyLoop] at h
  | succ fuelT ih =>
    intro t L h F hF
    rw [multiplyLoop] at h
    cases hadv : advance qs t with
    | error => simp [hadv] at h
    | panic => simp [hadv] at h
    | ok r =>
      rw [hadv] at h
      simp only [bind_ok] at h
      cases r with
      | none =>
        simp at h; subst h
        simp only [List.length_singleton, Nat.mul_one] at hF
        obtain ⟨F', rfl⟩ : ∃ F', F = (F' + 1) + (q - 1) := ⟨F - q, by omega⟩
        rw [loop_cycle q qs hq t (q - 1) 0 (F' + 1) (by omega), loop_wrap q qs hq, hadv]
        simp [range'_zero_append_last q hq]
      | some t' =>
        simp only [bind_eq_ok] at h
        obtain ⟨L', hL', h⟩ := h
        simp at h; subst h
        simp only [List.length_cons, Nat.mul_add, Nat.mul_one] at hF
        obtain ⟨F', rfl⟩ : ∃ F', F = (F' + 1) + (q - 1) := ⟨F - q, by omega⟩
        rw [loop_cycle q qs hq t (q - 1) 0 (F' + 1) (by omega), loop_wrap q qs hq, hadv]
        simp only [bind_ok]
        rw [ih t' L' hL' F' (by omega)]
        simp only [bind_ok, List.flatMap_cons]
        rw [← range'_zero_append_last q hq t]
        simp

theorem length_cart (qs : List Nat) : (cart qs).length = product qs := by
  induction qs with
  | nil => rfl
  | cons q qs ih =>
    simp only [cart, product, ← ih]
    generalize cart qs = L
    induction L with
    | nil => simp
    | cons t L ihL => simp [List.flatMap_cons, ihL, Nat.mul_add, Nat.add_comm]

/-- `multiply(&quantities).collect()` is the cartesian product, first index fastest — provided no
quantity is 0 (then `quantities[i]-1` would underflow). -/
theorem multiply_eq_cart (qs : List Nat) (h : ∀ q ∈ qs, q ≠ 0) : multiply qs = ok (cart qs) := by
  induction qs with
  | nil => simp [multiply, multiplyLoop, product, advance, cart]
  | cons q qs ih =>
    have hq : q ≠ 0 := h q (List.mem_cons_self ..)
    have ih' := ih fun x hx => h x (List.mem_cons_of_mem _ hx)
    unfold multiply at ih' ⊢
    simp only [List.map_cons, product]
    rw [loop_sim q qs hq _ _ _ ih' _ (by rw [length_cart]; exact Nat.le_refl _)]
    rfl

/-! ### what is in `cart`, and in which order -/

theorem mem_cart {qs : List Nat} {t : List Nat} :
    t ∈ cart qs ↔ t.length = qs.length ∧ ∀ (i q : Nat), qs[i]? = some q → ∃ n : Nat, t[i]? = some n ∧ n < q := by
  induction qs generalizing t with
  | nil =>
    simp only [cart, List.mem_singleton, List.length_nil]
    constructor
    · rintro rfl; simp
    · rintro ⟨h, _⟩; exact List.length_eq_zero_iff.1 h
  | cons q qs ih =>
    simp only [cart, List.mem_flatMap, List.mem_map, List.mem_range]
    constructor
    · rintro ⟨t', ht', n, hn, rfl⟩
      obtain ⟨hl, hb⟩ := ih.1 ht'
      refine ⟨by simp [hl], ?_⟩
      intro i q' hi
      cases i with
      | zero => simp at hi; subst hi; exact ⟨n, by simp, hn⟩
      | succ i => simp at hi; simpa using hb i q' hi
    · rintro ⟨hl, hb⟩
      cases t with
      | nil => simp at hl
      | cons n t' =>
        refine ⟨t', ih.2 ⟨by simpa using hl, ?_⟩, n, ?_, rfl⟩
        · intro i q' hi
          simpa using hb (i + 1) q' (by simpa using hi)
        · obtain ⟨m, hm, hlt⟩ := hb 0 q (by simp)
          simp at hm; subst hm; exact hlt

/-- colexicographic order: compare the LAST differing index — the order an odometer with the first
index fastest runs through -/
def colexLt : List Nat → List Nat → Prop
  | a :: as, b :: bs => colexLt as bs ∨ (as = bs ∧ a < b)
  | _, _ => False

theorem pairwise_map_cons_range (q : Nat) (t : List Nat) :
    ((List.range q).map fun i => i :: t).Pairwise colexLt := by
  rw [List.pairwise_map]
  have : (List.range q).Pairwise (· < ·) := List.pairwise_lt_range
  exact this.imp fun h => Or.inr ⟨rfl, h⟩

/-- `cart` is strictly increasing in odometer order (in particular it lists each tuple once) -/
theorem pairwise_cart (qs : List Nat) : (cart qs).Pairwise colexLt := by
  induction qs with
  | nil => simp [cart]
  | cons q qs ih =>
    simp only [cart]
    generalize cart qs = L at ih
    induction L with
    | nil => simp
    | cons t L ihL =>
      rw [List.pairwise_cons] at ih
      simp only [List.flatMap_cons, List.pairwise_append]
      refine ⟨pairwise_map_cons_range q t, ihL ih.2, ?_⟩
      intro a ha b hb
      simp only [List.mem_map, List.mem_range] at ha
      obtain ⟨i, _, rfl⟩ := ha
      simp only [List.mem_flatMap, List.mem_map, List.mem_range] at hb
      obtain ⟨t', ht', j, _, rfl⟩ := hb
      exact Or.inl (ih.1 t' ht')

theorem colexLt_irrefl (a : List Nat) : ¬ colexLt a a := by
  induction a with
  | nil => simp [colexLt]
  | cons x xs ih => simp [colexLt, ih]

theorem nodup_cart (qs : List Nat) : (cart qs).Nodup :=
  (pairwise_cart qs).imp fun {a b} h (hab : a = b) => colexLt_irrefl a (by rw [← hab] at h; exact h)

end Convert
end TmVerif
