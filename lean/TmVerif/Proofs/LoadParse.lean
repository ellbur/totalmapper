/-
The parser, function by function, followed once: it never panics (each `.unwrap()` is behind a
`has_exactly_keys` / `has_at_least_keys` test that makes the key present, each `elems[len-1]` behind
a `len() == 0` test), and what it returns is well-formed (`Fancy.layoutOK`).
-/
import TmVerif.Proofs.LoadBasic
import TmVerif.Proofs.LoadWellFormed

namespace TmVerif
open Outcome Parse

theorem lookupVariantIn_known {name : List Nat} {tbl : List (Nat × List Nat × List Nat)} {d : Key}
    (h : lookupVariantIn name tbl = some d) : (serdeNameIn d tbl).isSome = true := by
  induction tbl with
  | nil => cases h
  | cons r rest ih =>
    obtain ⟨d', v, s⟩ := r
    simp only [lookupVariantIn] at h
    simp only [serdeNameIn]
    split at h
    · simp at h; subst h; simp
    · split
      · rfl
      · exact ih h

theorem parseKeyCode_known {n : List Char} {k : Key} (h : parseKeyCode n = some k) : isKnownKey k = true := by
  unfold parseKeyCode parseKeyCodeN at h
  simp only [isKnownKey, serdeNameN]
  split at h
  · cases h
  all_goals exact lookupVariantIn_known h

theorem inI32_toI32 (i : Int) : inI32 (toI32 i) = true := by
  have h1 := Int.emod_nonneg (i + 2147483648) (b := 4294967296) (by decide)
  have h2 := Int.emod_lt_of_pos (i + 2147483648) (b := 4294967296) (by decide)
  unfold inI32 toI32
  generalize (i + 2147483648) % 4294967296 = r at h1 h2 ⊢
  simp only [Bool.and_eq_true, decide_eq_true_eq]
  omega

namespace Parse
open Outcome Fancy

theorem parseKeyCodeO_sat (t : List Char) : Sat (parseKeyCodeO t) (isKnownKey · = true) :=
  sat_ofOption fun _ => parseKeyCode_known

@[simp] theorem parseKeyCodeO_np (t : List Char) : parseKeyCodeO t ≠ panic := (parseKeyCodeO_sat t).1

/-- the text of a modifier in `from`, `to`, `absorbing` (three copies of the same code) -/
theorem modifierText_sat (t : List Char) :
    Sat (if startsWithAt t then ok (Modifier.alias t) else (parseKeyCodeO t).bind fun k => ok (Modifier.key k))
      (modOK · = true) := by
  split
  · exact sat_ok rfl
  · exact (parseKeyCodeO_sat t).bind fun k hk => sat_ok hk

theorem parseFromModifier_sat (v : Json) : Sat (parseFromModifier v) (modOK · = true) := by
  unfold parseFromModifier
  split
  · exact modifierText_sat _
  · exact sat_error

theorem parseFromModifiers_sat (vs : List Json) : Sat (parseFromModifiers vs) (modsOK · = true) :=
  sat_mapM_all parseFromModifier_sat vs

theorem parseRow_sat (t : List Char) : Sat (parseRow t) fun _ => True :=
  sat_ite (sat_ok trivial) <| sat_ite (sat_ok trivial) <| sat_ite (sat_ok trivial) <| sat_ite (sat_ok trivial) <|
    sat_ite (sat_ok trivial) sat_error

def fromKeyOK : FromKey → Bool
  | .single k => isKnownKey k
  | .row _ => true

theorem parseFromRow_sat (e : List (List Char × Json)) : Sat (parseFromRow e) (fromKeyOK · = true) := by
  unfold parseFromRow
  split
  · rename_i h
    refine (sat_unwrapO (lookup_of_hasExactlyKeys h (k := sRow) (by simp))).bind fun v _ => ?_
    split
    · exact (parseRow_sat _).bind fun r _ => sat_ok rfl
    · exact sat_error
  · exact sat_error

theorem parseFromKey_sat (v : Json) : Sat (parseFromKey v) (fromKeyOK · = true) := by
  unfold parseFromKey
  split
  · exact (parseKeyCodeO_sat _).bind fun k hk => sat_ok hk
  · unfold parseFromKeyObj
    split
    · exact parseFromRow_sat _
    · exact sat_error
  · exact sat_error

def fromKeysOK : FromKeys → Bool
  | .single f => modsOK f.modifiers && isKnownKey f.key
  | .row f => modsOK f.modifiers

/-- the shared tail of both branches of `parse_from` -/
theorem parseFrom_tail_sat {ms : List Modifier} (hms : modsOK ms = true) (last : Json) :
    Sat ((parseFromKey last).bind fun key =>
          match key with
          | FromKey.single k => ok (FromKeys.single ⟨ms, k⟩)
          | FromKey.row r => ok (FromKeys.row ⟨ms, r⟩)) (fromKeysOK · = true) :=
  (parseFromKey_sat last).bind fun key hkey => by
    cases key with
    | single k => exact sat_ok (by simpa [fromKeysOK, fromKeyOK, hms] using hkey)
    | row r => exact sat_ok (by simpa [fromKeysOK] using hms)

theorem parseFrom_sat (v : Json) : Sat (parseFrom v) (fromKeysOK · = true) := by
  unfold parseFrom
  split
  · split
    · exact sat_error
    · rename_i elems h
      refine (parseFromModifiers_sat _).bind fun ms hms => ?_
      refine (sat_unwrapO (getLast?_of_length_ne_zero (by simpa using h))).bind fun last _ => ?_
      exact parseFrom_tail_sat hms last
  · exact parseFrom_tail_sat rfl v

theorem parseToInitialElem_sat (v : Json) : Sat (parseToInitialElem v) (modOK · = true) := by
  unfold parseToInitialElem
  split
  · exact modifierText_sat _
  · exact sat_error

theorem parseToInitial_sat (vs : List Json) : Sat (parseToInitial vs) (modsOK · = true) :=
  sat_mapM_all parseToInitialElem_sat vs

theorem parseKeyCodeJ_sat (v : Json) : Sat (parseKeyCodeJ v) (isKnownKey · = true) := by
  unfold parseKeyCodeJ
  split
  · exact parseKeyCodeO_sat _
  · exact sat_error

theorem parseAliasToInitial_sat (vs : List Json) : Sat (parseAliasToInitial vs) (keysKnown · = true) :=
  sat_mapM_all parseKeyCodeJ_sat vs

def soatOK : SingleOrAliasToTerminal → Bool
  | .single t => termOK t
  | .alias _ => true

theorem parseSingleOrAliasToTerminal_sat (v : Json) : Sat (parseSingleOrAliasToTerminal v) (soatOK · = true) := by
  unfold parseSingleOrAliasToTerminal
  split
  · exact sat_ite (sat_ok rfl) ((parseKeyCodeO_sat _).bind fun k hk => sat_ok hk)
  · exact sat_error
  · exact sat_error

def soakOK : SingleOrAliasToKeys → Bool
  | .single t => stkOK t
  | .alias t => keysKnown t.initial

theorem parseSingleOrAliasTo_sat (v : Json) : Sat (parseSingleOrAliasTo v) (soakOK · = true) := by
  unfold parseSingleOrAliasTo
  split
  · unfold parseSingleOrAliasToArray
    split
    · exact sat_ok rfl
    · rename_i elems h
      refine (sat_unwrapO (getLast?_of_length_ne_zero (by simpa using h))).bind fun last _ => ?_
      refine (parseSingleOrAliasToTerminal_sat last).bind fun term hterm => ?_
      cases term with
      | single t => exact (parseToInitial_sat _).bind fun ms hms => sat_ok (by simpa [soakOK, soatOK, stkOK, hms] using hterm)
      | alias n => exact (parseAliasToInitial_sat _).bind fun ks hks => sat_ok hks
  · refine (parseSingleOrAliasToTerminal_sat v).bind fun term hterm => ?_
    cases term with
    | single t => exact sat_ok (by simpa [soakOK, soatOK, stkOK, modsOK] using hterm)
    | alias n => exact sat_ok rfl

theorem parseSingleToTerminal_sat (v : Json) : Sat (parseSingleToTerminal v) (termOK · = true) := by
  unfold parseSingleToTerminal
  split
  · exact sat_ite sat_error ((parseKeyCodeO_sat _).bind fun k hk => sat_ok hk)
  · exact sat_error
  · exact sat_error

theorem parseSingleTo_sat (v : Json) : Sat (parseSingleTo v) (stkOK · = true) := by
  unfold parseSingleTo
  split
  · unfold parseSingleToArray
    split
    · exact sat_ok rfl
    · rename_i elems h
      refine (parseToInitial_sat _).bind fun ms hms => ?_
      refine (sat_unwrapO (getLast?_of_length_ne_zero (by simpa using h))).bind fun last _ => ?_
      exact (parseSingleToTerminal_sat last).bind fun t ht => sat_ok (by simp [stkOK, hms, ht])
  · exact (parseSingleToTerminal_sat v).bind fun t ht => sat_ok (by simpa [stkOK, modsOK] using ht)

theorem parseRowToTerminal_sat (v : Json) : Sat (parseRowToTerminal v) fun _ => True := by
  unfold parseRowToTerminal
  split
  · unfold parseRowToObj
    split
    · rename_i h
      refine (sat_unwrapO (lookup_of_hasExactlyKeys h (k := sLetters) (by simp))).bind fun l _ => ?_
      split
      · exact sat_ok trivial
      · exact sat_error
    · exact sat_error
  · exact sat_error

theorem parseRowTo_sat (v : Json) : Sat (parseRowTo v) (modsOK ·.initial = true) := by
  unfold parseRowTo
  split
  · unfold parseRowToArray
    split
    · exact sat_error
    · rename_i elems h
      refine (parseToInitial_sat _).bind fun ms hms => ?_
      refine (sat_unwrapO (getLast?_of_length_ne_zero (by simpa using h))).bind fun last _ => ?_
      exact (parseRowToTerminal_sat last).bind fun t _ => sat_ok hms
  · exact (parseRowToTerminal_sat v).bind fun t _ => sat_ok rfl

theorem parseRepeatMs_sat (v : Json) : Sat (parseRepeatMs v) (inI32 · = true) := by
  unfold parseRepeatMs
  split
  · exact (sat_ofOption (P := fun _ => True) fun _ _ => trivial).bind fun i _ => sat_ok (inI32_toI32 i)
  · exact sat_error

/-- the body shared by `parse_single_repeat` and `parse_row_repeat`, which differ in the parser of `keys` -/
theorem special_sat {κ ρ : Type} {parseKeys : Json → Outcome κ} {K : κ → Prop} (hkeys : ∀ v, Sat (parseKeys v) K)
    {mk : κ → Int → Int → ρ} {R : ρ → Prop} (hmk : ∀ k d i, K k → inI32 d = true → inI32 i = true → R (mk k d i))
    (params : List (List Char × Json)) :
    Sat (if hasExactlyKeys params [sSpecial] then
          (unwrapO (Json.lookup sSpecial params)).bind fun special =>
          match special with
          | Json.obj special =>
            if hasExactlyKeys special [sKeys, sDelay, sInterval] then
              (unwrapO (Json.lookup sKeys special)).bind fun keys =>
              (unwrapO (Json.lookup sDelay special)).bind fun delay =>
              (unwrapO (Json.lookup sInterval special)).bind fun interval =>
              (parseKeys keys).bind fun keys =>
              (parseRepeatMs delay).bind fun delay =>
              (parseRepeatMs interval).bind fun interval =>
              ok (mk keys delay interval)
            else error
          | _ => error
        else error) R := by
  split
  · rename_i h
    refine (sat_unwrapO (lookup_of_hasExactlyKeys h (k := sSpecial) (by simp))).bind fun sp _ => ?_
    split
    · split
      · rename_i h2
        refine (sat_unwrapO (lookup_of_hasExactlyKeys h2 (k := sKeys) (by simp))).bind fun k _ => ?_
        refine (sat_unwrapO (lookup_of_hasExactlyKeys h2 (k := sDelay) (by simp))).bind fun d _ => ?_
        refine (sat_unwrapO (lookup_of_hasExactlyKeys h2 (k := sInterval) (by simp))).bind fun i _ => ?_
        refine (hkeys k).bind fun keys hk => ?_
        refine (parseRepeatMs_sat d).bind fun delay hd => ?_
        exact (parseRepeatMs_sat i).bind fun interval hi => sat_ok (hmk _ _ _ hk hd hi)
      · exact sat_error
    · exact sat_error
  · exact sat_error

theorem parseSingleRepeat_sat (v : Option Json) : Sat (parseSingleRepeat v) (srepOK · = true) := by
  unfold parseSingleRepeat
  split
  · exact sat_ite (sat_ok rfl) (sat_ite (sat_ok rfl) sat_error)
  · exact special_sat parseSingleTo_sat (fun k d i hk hd hi => by simp [srepOK, hk, hd, hi]) _
  · exact sat_error
  · exact sat_ok rfl

theorem parseRowRepeat_sat (v : Option Json) : Sat (parseRowRepeat v) (rrepOK · = true) := by
  unfold parseRowRepeat
  split
  · exact sat_ite (sat_ok rfl) (sat_ite (sat_ok rfl) sat_error)
  · exact special_sat parseRowTo_sat (fun k d i hk hd hi => by simp [rrepOK, hk, hd, hi]) _
  · exact sat_error
  · exact sat_ok rfl

theorem parseModifier_sat (t : List Char) : Sat (parseModifier t) (modOK · = true) := modifierText_sat t

theorem parseAbsorbing_sat (v : Option Json) : Sat (parseAbsorbing v) (modsOK · = true) := by
  unfold parseAbsorbing
  split
  · refine sat_mapM_all (fun v => ?_) _
    unfold parseAbsorbingElem
    split
    · exact parseModifier_sat _
    · exact sat_error
  · exact (parseModifier_sat _).bind fun m hm => sat_ok (by simpa [modsOK] using hm)
  · exact sat_error
  · exact sat_ok rfl

theorem modifierKeys_sat : ∀ (ms : List Modifier), modsOK ms = true → Sat (modifierKeys ms) (keysKnown · = true)
  | [], _ => sat_ok rfl
  | .alias _ :: _, _ => sat_error
  | .key k :: ms, h => by
    simp only [modsOK, List.all_cons, Bool.and_eq_true] at h
    exact (modifierKeys_sat ms h.2).bind fun ks hks => sat_ok (by simpa [keysKnown, modOK] using And.intro h.1 (keysKnown_iff.1 hks))

theorem singleToAliasFrom_sat {f : SingleFromKeys} (hm : modsOK f.modifiers = true) (hk : isKnownKey f.key = true) :
    Sat (singleToAliasFrom f) fun af => keysKnown af.keys = true ∧ af.keys.isEmpty = false :=
  (modifierKeys_sat _ hm).bind fun ks hks => sat_ok ⟨by simp_all [keysKnown], by simp⟩

theorem parseMappingFromJson_sat (v : Json) : Sat (parseMappingFromJson v) (mappingOK · = true) := by
  unfold parseMappingFromJson
  split
  · rename_i mv
    split
    · rename_i h
      refine (sat_unwrapO (lookup_of_hasAtLeastKeys h (k := sFrom) (by simp))).bind fun fromV _ => ?_
      refine (parseFrom_sat fromV).bind fun frm hfrm => ?_
      cases frm with
      | single frm =>
        simp only [fromKeysOK, Bool.and_eq_true] at hfrm
        refine (sat_unwrapO (lookup_of_hasAtLeastKeys h (k := sTo) (by simp))).bind fun toV _ => ?_
        refine (parseSingleOrAliasTo_sat toV).bind fun to hto => ?_
        cases to with
        | single to =>
          refine (parseSingleRepeat_sat _).bind fun rep hrep => ?_
          refine (parseAbsorbing_sat _).bind fun abs habs => ?_
          split
          · rename_i hao
            exact sat_ok (by simp_all [mappingOK, soakOK])
          · exact sat_error
        | alias to =>
          refine sat_ite sat_error (sat_ite sat_error ?_)
          exact (singleToAliasFrom_sat hfrm.1 hfrm.2).bind fun af haf => sat_ok (by simp_all [mappingOK, soakOK])
      | row frm =>
        refine (sat_unwrapO (lookup_of_hasAtLeastKeys h (k := sTo) (by simp))).bind fun toV _ => ?_
        refine (parseRowTo_sat toV).bind fun to hto => ?_
        refine (parseRowRepeat_sat _).bind fun rep hrep => ?_
        refine sat_ite sat_error ?_
        refine (parseAbsorbing_sat _).bind fun abs habs => ?_
        split
        · rename_i hao
          exact sat_ok (by simp_all [mappingOK, fromKeysOK])
        · exact sat_error
    · split
      · rename_i h
        refine (sat_unwrapO (lookup_of_hasExactlyKeys h (k := sFrom) (by simp))).bind fun fromV _ => ?_
        refine (parseFrom_sat fromV).bind fun frm hfrm => ?_
        cases frm with
        | single frm => exact (parseSingleRepeat_sat _).bind fun rep hrep => sat_ok (by simp_all [mappingOK, fromKeysOK])
        | row frm => exact sat_error
      · exact sat_error
  · exact sat_error

end Parse

open Parse in
/-- `parse_layout_from_json` never panics, and the layout it returns is well-formed -/
theorem parseLayoutFromJson_sat (j : Json) : Sat (parseLayoutFromJson j) (Fancy.layoutOK · = true) := by
  unfold parseLayoutFromJson
  split
  · split
    · rename_i h
      refine (sat_unwrapO (lookup_of_hasExactlyKeys h (k := sMappings) (by simp))).bind fun mv _ => ?_
      split
      · exact (sat_mapM_all parseMappingFromJson_sat _).bind fun ms hms => sat_ite (sat_ok hms) sat_error
      · exact sat_error
    · exact sat_error
  · exact sat_error

end TmVerif
