/-
The invariant of the mapper state over histories (`Inv`), the five ways a step can go (`step_cases`), and the
preservation of `Inv` by `step`.
-/
import TmVerif.Proofs.Press

namespace TmVerif

/-- `Inv L P s`: `s` is a mapper state for layout `L` consistent with the set `P` of physically held keys. -/
structure Inv (L : Layout) (P : List Key) (s : State) : Prop where
  i : IInv [] s
  inpP : ∀ k, k ∈ s.inp → k ∈ P
  actL : ∀ m, m ∈ s.active → m ∈ L
  noHid : ∀ k, k ∈ s.pass → hidden L k = false
  actNe : ∀ m, m ∈ s.active → m.frm ≠ []

theorem Inv.init (L : Layout) : Inv L [] State.init := by
  refine ⟨⟨?_, ?_, ?_, ?_, ?_, ?_⟩, ?_, ?_, ?_, ?_⟩ <;> simp [State.init]

theorem to_not_hidden {L : Layout} {m : Mapping} (hm : m ∈ L) (k : Key) (hk : k ∈ m.to) :
    hidden L k = false := by
  cases hh : hidden L k with
  | false => rfl
  | true =>
    exfalso
    simp only [hidden, Bool.and_eq_true, Bool.not_eq_eq_eq_not, Bool.not_true, List.any_eq_false] at hh
    have := hh.2 m hm
    simp [hk] at this

theorem Inv.held_not_hidden {L : Layout} {P : List Key} {s : State} (h : Inv L P s) (k : Key)
    (hk : k ∈ held s) : hidden L k = false := by
  rcases (mem_held s k).mp hk with h1 | h1
  · exact h.noHid k h1
  · rcases h.i.mappedAct k h1 with h1 | ⟨m, hm, hkm⟩
    · simp at h1
    · exact to_not_hidden (h.actL m hm) k hkm

/-- how `Inv` is carried over one operation: the structural invariant holds again, the events are legal and press no
hidden key, the input keys are physically held, and any new active mapping is a mapping of the layout -/
theorem Inv.next {L : Layout} {P P' : List Key} {s s' : State} {evs : List Event} (h : Inv L P s)
    (hi : IInv [] s') (he : Emits (held s) evs (held s'))
    (hpr : ∀ x, Event.pressed x ∈ evs → hidden L x = false) (hinp : ∀ x, x ∈ s'.inp → x ∈ P')
    (hact : ∀ m, m ∈ s'.active → m ∈ s.active ∨ (m ∈ L ∧ m.frm ≠ [])) : Inv L P' s' := by
  refine ⟨hi, hinp, fun m hm => (hact m hm).elim (h.actL m) (·.1), ?_, fun m hm => (hact m hm).elim (h.actNe m) (·.2)⟩
  intro k hk
  rcases mem_foldEvs ((he.2 k).mpr (by simp [hk])) with h1 | h1
  · exact h.held_not_hidden k h1
  · exact hpr k h1

/-! ### the five ways a step can go -/

/-- `any_hit` after the scan of the active mappings, together with `pass.contains(&k)` -/
def noHit (s : State) (k : Key) : Bool :=
  !(pressPrep s k).active.any (fun m => m.frm.contains k || m.to.contains k) &&
    !(pressPrep s k).pass.contains k

theorem noHit_iff (s : State) (k : Key) :
    noHit s k = true ↔ (∀ m, m ∈ s.active → k ∉ m.frm ∧ k ∉ m.to) ∧ k ∉ s.pass := by
  simp [noHit, pressPrep]

/-- the event is not acted on -/
def ignored (s : State) : Event → Prop
  | Event.pressed k => k ∈ s.inp
  | Event.released k => k ∉ s.inp

theorem step_ignored {L : Layout} {s : State} {e : Event} (h : ignored s e) :
    step L s e = (s, ⟨[], RRepeat.noChange⟩) := by
  cases e <;> simp only [ignored] at h <;> simp [step, h]

theorem step_release {L : Layout} {s : State} {k : Key} (hk : k ∈ s.inp) :
    step L s (Event.released k) = ((releaseKey s k).1, ⟨(releaseKey s k).2, RRepeat.disabled⟩) := by
  simp [step, hk, newlyRelease]

theorem step_press {L : Layout} {s : State} {k : Key} (hk : k ∉ s.inp) :
    step L s (Event.pressed k) = newlyPress L s k := by
  simp [step, hk]

theorem step_fire {L : Layout} {s : State} {k : Key} {m : Mapping} (hk : k ∉ s.inp)
    (hf : findMapping L s k = some m) :
    step L s (Event.pressed k) =
      (pushInp (addNewMapping (pressPrep s k) k m).1 k, (addNewMapping (pressPrep s k) k m).2) := by
  simp only [step_press hk, newlyPress, hf]; rfl

theorem step_pass {L : Layout} {s : State} {k : Key} (hk : k ∉ s.inp) (hf : findMapping L s k = none)
    (hn : noHit s k = true) :
    step L s (Event.pressed k) =
      (pushInp (passThrough (pressPrep s k) k).1 k, ⟨(passThrough (pressPrep s k) k).2, RRepeat.disabled⟩) := by
  unfold noHit at hn
  simp only [step_press hk, newlyPress, hf, hn]; rfl

theorem step_skip {L : Layout} {s : State} {k : Key} (hk : k ∉ s.inp) (hf : findMapping L s k = none)
    (hn : noHit s k = false) :
    step L s (Event.pressed k) = (pushInp (pressPrep s k) k, ⟨[], RRepeat.disabled⟩) := by
  unfold noHit at hn
  simp only [step_press hk, newlyPress, hf, hn]; rfl

/-- The case distinction of `Mapper::step`, `newly_press` and `newly_release`, made once: each case comes with the
equation for `step L s e` (the right-hand sides of the five lemmas above). -/
inductive StepCase (L : Layout) (s : State) (e : Event) : Prop
  | ignored (hign : ignored s e) (h : step L s e = (s, ⟨[], RRepeat.noChange⟩))
  | release (k : Key) (he : e = Event.released k) (hk : k ∈ s.inp)
      (h : step L s e = ((releaseKey s k).1, ⟨(releaseKey s k).2, RRepeat.disabled⟩))
  | fire (k : Key) (m : Mapping) (he : e = Event.pressed k) (hk : k ∉ s.inp) (hf : findMapping L s k = some m)
      (h : step L s e = (pushInp (addNewMapping (pressPrep s k) k m).1 k, (addNewMapping (pressPrep s k) k m).2))
  | pass (k : Key) (he : e = Event.pressed k) (hk : k ∉ s.inp) (hf : findMapping L s k = none)
      (hn : noHit s k = true)
      (h : step L s e = (pushInp (passThrough (pressPrep s k) k).1 k,
        ⟨(passThrough (pressPrep s k) k).2, RRepeat.disabled⟩))
  | skip (k : Key) (he : e = Event.pressed k) (hk : k ∉ s.inp) (hf : findMapping L s k = none)
      (hn : noHit s k = false) (h : step L s e = (pushInp (pressPrep s k) k, ⟨[], RRepeat.disabled⟩))

theorem step_cases (L : Layout) (s : State) (e : Event) : StepCase L s e := by
  cases e with
  | released k =>
    by_cases hk : k ∈ s.inp
    · exact .release k rfl hk (step_release hk)
    · exact .ignored hk (step_ignored hk)
  | pressed k =>
    by_cases hk : k ∈ s.inp
    · exact .ignored hk (step_ignored hk)
    · cases hf : findMapping L s k with
      | some m => exact .fire k m rfl hk hf (step_fire hk hf)
      | none =>
        cases hn : noHit s k
        · exact .skip k rfl hk hf hn (step_skip hk hf hn)
        · exact .pass k rfl hk hf hn (step_pass hk hf hn)

/-- what a firing press does to the keys, from any state satisfying the structural invariant -/
theorem fires_any (L : Layout) (s : State) (k : Key) (m : Mapping) (h : IInv [] s) (hk : k ∉ s.inp)
    (hf : findMapping L s k = some m) :
    Fires (held s) m (step L s (Event.pressed k)).2.events (held (step L s (Event.pressed k)).1) := by
  rw [step_fire hk hf]
  exact (addNewMapping_spec _ k m (pressPrep_iinv k h) (findMapping_some hf).2.2).2

theorem mem_of_mem_ite_filter {α : Type} {c : Prop} [Decidable c] {p : α → Bool} {l : List α} {x : α}
    (h : x ∈ if c then l.filter p else l) : x ∈ l := by
  split at h
  · exact (List.mem_filter.mp h).1
  · exact h

/-- the input keys after a step are old ones (not the key released), or the key just pressed; the active mappings are
old ones, or the mapping just fired — for every state -/
theorem step_sub (L : Layout) (s : State) (e : Event) :
    (∀ x, x ∈ (step L s e).1.inp → (x ∈ s.inp ∧ e ≠ Event.released x) ∨ e = Event.pressed x) ∧
    (∀ m, m ∈ (step L s e).1.active → m ∈ s.active ∨ ∃ k, e = Event.pressed k ∧ findMapping L s k = some m) := by
  -- the three press cases push the pressed key onto a sublist of `inp`
  have press (k : Key) (l : List Key) (hl : ∀ x, x ∈ l → x ∈ s.inp) (x : Key) (hx : x ∈ l ++ [k]) :
      (x ∈ s.inp ∧ Event.pressed k ≠ Event.released x) ∨ Event.pressed k = Event.pressed x :=
    (List.mem_append.mp hx).imp (fun hx => ⟨hl x hx, nofun⟩) fun hx => by rw [List.mem_singleton.mp hx]
  rcases step_cases L s e with ⟨hi, hs⟩ | ⟨k, rfl, _, hs⟩ | ⟨k, m, rfl, _, hf, hs⟩ | ⟨k, rfl, _, _, _, hs⟩ |
    ⟨k, rfl, _, _, _, hs⟩ <;> rw [hs]
  · refine ⟨fun x hx => Or.inl ⟨hx, ?_⟩, fun m hm => Or.inl hm⟩
    rintro rfl
    exact hi hx
  · simp only [releaseKey_ctl]
    refine ⟨fun x hx => Or.inl ⟨(List.mem_filter.mp hx).1, fun e => ?_⟩, fun m hm => Or.inl (List.mem_filter.mp hm).1⟩
    have := (List.mem_filter.mp hx).2
    cases e
    simp at this
  · simp only [pushInp_ctl, addNewMapping_ctl, pressPrep_ctl]
    refine ⟨press k _ fun x => mem_of_mem_ite_filter, fun m' hm' => ?_⟩
    rcases List.mem_append.mp hm' with hm' | hm'
    · exact Or.inl (mem_of_mem_ite_filter hm')
    · exact Or.inr ⟨k, rfl, List.mem_singleton.mp hm' ▸ hf⟩
  · simp only [pushInp_ctl, passThrough_eq, passRel_ctl, pressPrep_ctl]
    exact ⟨press k _ fun x => mem_of_mem_ite_filter, fun m hm => Or.inl (mem_of_mem_ite_filter hm)⟩
  · simp only [pushInp_ctl, pressPrep_ctl]
    exact ⟨press k _ fun x hx => hx, fun m hm => Or.inl hm⟩

/-- an ignored event changes nothing and the invariant survives the change of `P` -/
theorem Inv.ignored {L : Layout} {P : List Key} {s : State} (h : Inv L P s) (e : Event)
    (hign : match e with
      | Event.pressed k => k ∈ s.inp
      | Event.released k => k ∉ s.inp) :
    Inv L (applyEv P e) s := by
  refine ⟨h.i, ?_, h.actL, h.noHid, h.actNe⟩
  intro x hx
  cases e with
  | pressed k => simp; exact Or.inl (h.inpP x hx)
  | released k =>
    simp only at hign
    have : x ≠ k := fun e => hign (e ▸ hx)
    simp [h.inpP x hx, this]

/-- every step preserves the invariant, emits legal events that track `pass ∪ mapped`, and presses no hidden key -/
theorem step_inv (L : Layout) (P : List Key) (s : State) (e : Event) (h : Inv L P s) :
    Inv L (applyEv P e) (step L s e).1 ∧ Emits (held s) (step L s e).2.events (held (step L s e).1) ∧
    ∀ x, Event.pressed x ∈ (step L s e).2.events → hidden L x = false := by
  have h0 (k) := pressPrep_iinv k h.i
  have key : IInv [] (step L s e).1 ∧ Emits (held s) (step L s e).2.events (held (step L s e).1) ∧
      ∀ x, Event.pressed x ∈ (step L s e).2.events → hidden L x = false := by
    rcases step_cases L s e with ⟨_, hs⟩ | ⟨k, _, _, hs⟩ | ⟨k, m, _, _, hf, hs⟩ | ⟨k, _, _, hf, hn, hs⟩ |
      ⟨k, _, _, _, _, hs⟩ <;> rw [hs]
    · exact ⟨h.i, Emits.refl _, by simp⟩
    · have r := releaseKey_spec k h.i
      exact ⟨r.1, r.2.emits, fun x hx => by cases r.2.allRel _ hx⟩
    · have a := addNewMapping_spec (pressPrep s k) k m (h0 k) (findMapping_some hf).2.2
      exact ⟨a.1, a.2.emits, fun x hx => to_not_hidden (findMapping_some hf).1 x (a.2.only x hx)⟩
    · have hc := (noHit_iff s k).mp hn
      have p := passThrough_spec (pressPrep s k) k (h0 k) hc.2 hc.1
      exact ⟨p.1, p.2.1, fun x hx => p.2.2 x hx ▸ findMapping_none_not_hidden hf⟩
    · exact ⟨(h0 k).pushInp k, Emits.refl _, by simp⟩
  refine ⟨h.next key.1 key.2.1 key.2.2 (fun x hx => ?_) (fun m hm => ?_), key.2⟩
  · rcases (step_sub L s e).1 x hx with h1 | rfl
    · cases e with
      | pressed k => exact (mem_applyEv_pressed _ _ _).mpr (Or.inl (h.inpP x h1.1))
      | released k => exact (mem_applyEv_released _ _ _).mpr ⟨h.inpP x h1.1, fun e => h1.2 (e ▸ rfl)⟩
    · exact (mem_applyEv_pressed _ _ _).mpr (Or.inr rfl)
  · refine ((step_sub L s e).2 m hm).imp_right fun ⟨k, _, hf⟩ => ?_
    exact ⟨(findMapping_some hf).1, List.ne_nil_of_mem (finalKey_mem (findMapping_some hf).2.1)⟩

end TmVerif
