/-
The press path of a step: the press loop over `m.to` (`Presses`), the four phases of `add_new_mapping` and what a firing
press does (`Fires`, `finishFire`), the pass-through branch (`passRel`), and the selection of the mapping to fire.
Same three kinds of statement per sub-function as in `Proofs/Inv.lean`.
-/
import TmVerif.Proofs.Inv

namespace TmVerif

/-! ### pressOne / pressAll -/

/-- `pressOne` in two cases instead of five: nothing changes if `k` is mapped already or is a modifier that is passed
through (an action key is then tapped: released and pressed again); otherwise `k` moves to the end of the mapped keys,
released first if it was passed through -/
theorem pressOne_eq (s : State) (k : Key) :
    pressOne s k =
      if k ∈ s.mapped ∨ (isActionKey k = false ∧ k ∈ s.pass) then
        (s, if isActionKey k then [Event.released k, Event.pressed k] else [])
      else
        ({ s with pass := s.pass.filter (fun x => x != k), mapped := s.mapped ++ [k] },
         (if k ∈ s.pass then [Event.released k] else []) ++ [Event.pressed k]) := by
  have hf (hp : k ∉ s.pass) : s.pass.filter (fun x => x != k) = s.pass :=
    List.filter_eq_self.mpr fun x hx => by have : x ≠ k := fun e => hp (e ▸ hx); simpa using this
  cases ha : isActionKey k <;> by_cases hm : k ∈ s.mapped <;> by_cases hp : k ∈ s.pass <;>
    simp [pressOne, ha, hm, hp, hf]

@[simp] theorem pressOne_ctl (s : State) (k : Key) :
    (pressOne s k).1.inp = s.inp ∧ (pressOne s k).1.active = s.active ∧
    (pressOne s k).1.absorbed = s.absorbed ∧ (pressOne s k).1.absTrig = s.absTrig ∧
    (pressOne s k).1.repTrig = s.repTrig := by
  rw [pressOne_eq]; split <;> simp

theorem mem_pressOne (s : State) (k x : Key) :
    (x ∈ (pressOne s k).1.pass ↔ x ∈ s.pass ∧ ¬(x = k ∧ isActionKey k = true ∧ k ∉ s.mapped)) ∧
    (x ∈ (pressOne s k).1.mapped ↔ x ∈ s.mapped ∨ (x = k ∧ (isActionKey k = true ∨ k ∉ s.pass))) := by
  rw [pressOne_eq]
  split <;> simp <;> grind

/-- moving `k`, an output key of the mapping being installed that is not mapped yet, to the end of the mapped keys -/
theorem IInv.moveToMapped {extra : List Key} {s : State} {k : Key} (h : IInv extra s) (hk : k ∈ extra)
    (hm : k ∉ s.mapped) :
    IInv extra { s with pass := s.pass.filter (fun x => x != k), mapped := s.mapped ++ [k] } := by
  refine ⟨h.ndPass.filter _, List.nodup_append.mpr ⟨h.ndMapped, by simp, ?_⟩, ?_,
    fun x hx => h.passInp x (List.mem_filter.mp hx).1, h.actInp, ?_⟩
  · intro a ha b hb e
    cases List.mem_singleton.mp hb
    exact hm (e ▸ ha)
  · intro x hx hx'
    obtain ⟨h1, h2⟩ := List.mem_filter.mp hx
    rcases List.mem_append.mp hx' with h3 | h3
    · exact h.disj x h1 h3
    · simp [List.mem_singleton.mp h3] at h2
  · intro x hx
    rcases List.mem_append.mp hx with h3 | h3
    · exact h.mappedAct x h3
    · exact Or.inl (List.mem_singleton.mp h3 ▸ hk)

/-- What a press run (the loop over `m.to`) may do: legal events, the keys `ks` go down and nothing comes up for good,
pass-through only shrinks, only keys of `ks` are pressed and every action key of `ks` is. -/
structure Presses (s s' : State) (evs : List Event) (ks : List Key) : Prop where
  emits : Emits (held s) evs (held s')
  heldIff : ∀ x, x ∈ held s' ↔ x ∈ held s ∨ x ∈ ks
  passSub : ∀ x, x ∈ s'.pass → x ∈ s.pass
  only : ∀ x, Event.pressed x ∈ evs → x ∈ ks
  action : ∀ x, x ∈ ks → isActionKey x = true → Event.pressed x ∈ evs

theorem Presses.nil (s : State) : Presses s s [] [] :=
  ⟨Emits.refl _, by simp, fun _ h => h, by simp, by simp⟩

theorem Presses.append {s s1 s2 : State} {a b : List Event} {ks1 ks2 : List Key}
    (h1 : Presses s s1 a ks1) (h2 : Presses s1 s2 b ks2) : Presses s s2 (a ++ b) (ks1 ++ ks2) := by
  refine ⟨h1.emits.trans h2.emits, ?_, fun x hx => h1.passSub x (h2.passSub x hx), ?_, ?_⟩
  · intro x; rw [h2.heldIff, h1.heldIff, List.mem_append, or_assoc]
  · have := h1.only; have := h2.only; simp only [List.mem_append]; grind
  · have := h1.action; have := h2.action; simp only [List.mem_append]; grind

theorem pressOne_spec {extra : List Key} (s : State) (k : Key) (h : IInv extra s) (hk : k ∈ extra) :
    IInv extra (pressOne s k).1 ∧ Presses s (pressOne s k).1 (pressOne s k).2 [k] := by
  rw [pressOne_eq]
  split
  · -- `k` is down and stays where it is
    rename_i hc
    have hkh : k ∈ held s := (mem_held s k).mpr (hc.elim Or.inr fun hc => Or.inl hc.2)
    have hiff : ∀ x, x ∈ held s ↔ x ∈ held s ∨ x ∈ [k] :=
      fun x => ⟨Or.inl, fun hx => hx.elim id fun hx => List.mem_singleton.mp hx ▸ hkh⟩
    refine ⟨h, ?_, hiff, fun _ hx => hx, ?_, ?_⟩
    · split
      · exact Emits.tap hkh fun _ => Iff.rfl
      · exact Emits.refl _
    · intro x hx
      split at hx <;> simp at hx
      simp [hx]
    · intro x hx ha
      cases List.mem_singleton.mp hx
      simp [ha]
  · -- `k` is not mapped: it leaves pass-through (released, if it was there) and is pressed as a mapped key
    rename_i hc
    have hm : k ∉ s.mapped := fun hm => hc (Or.inl hm)
    have hiff : ∀ x, x ∈ held { s with pass := s.pass.filter (fun x => x != k), mapped := s.mapped ++ [k] } ↔
        x ∈ held s ∨ x ∈ [k] := by
      intro x
      by_cases hx : x = k <;> simp [hx]
    refine ⟨h.moveToMapped hk hm, ?_, hiff, fun x hx => (List.mem_filter.mp hx).1, ?_, ?_⟩
    · have hiff' := fun x => (hiff x).trans (by simp : x ∈ held s ∨ x ∈ [k] ↔ x ∈ held s ∨ x = k)
      split
      · rename_i hp
        exact (Emits.release (V' := (held s).filter (· != k)) (by simp [hp]) (by simp)).trans
          (Emits.press (by simp) (by intro x; rw [hiff']; by_cases hx : x = k <;> simp [hx]))
      · rename_i hp
        exact Emits.press (by simp [hp, hm]) hiff'
    · intro x hx
      split at hx <;> simp at hx <;> simp [hx]
    · intro x hx _
      cases List.mem_singleton.mp hx
      simp

theorem pressAll_cons (s : State) (k : Key) (ks : List Key) :
    pressAll s (k :: ks) =
      ((pressAll (pressOne s k).1 ks).1, (pressOne s k).2 ++ (pressAll (pressOne s k).1 ks).2) := rfl

@[simp] theorem pressAll_ctl (s : State) (ks : List Key) :
    (pressAll s ks).1.inp = s.inp ∧ (pressAll s ks).1.active = s.active ∧
    (pressAll s ks).1.absorbed = s.absorbed ∧ (pressAll s ks).1.absTrig = s.absTrig ∧
    (pressAll s ks).1.repTrig = s.repTrig := by
  induction ks generalizing s with
  | nil => simp [pressAll]
  | cons k ks ih => simp [pressAll_cons, ih]

theorem pressAll_spec {extra : List Key} (s : State) (ks : List Key) (h : IInv extra s)
    (hk : ∀ k, k ∈ ks → k ∈ extra) :
    IInv extra (pressAll s ks).1 ∧ Presses s (pressAll s ks).1 (pressAll s ks).2 ks := by
  induction ks generalizing s with
  | nil => exact ⟨h, Presses.nil s⟩
  | cons k ks ih =>
    have h1 := pressOne_spec s k h (hk k (by simp))
    have h2 := ih (pressOne s k).1 h1.1 (fun x hx => hk x (by simp [hx]))
    exact ⟨h2.1, h1.2.append h2.2⟩


/-! ### addNewMapping -/

/-- the trigger of `m` is supported at `s` when `k` is pressed (what `is_supported` checked) -/
def Supported (s : State) (k : Key) (m : Mapping) : Prop :=
  ∀ x, x ∈ m.frm → (x ∈ s.inp ∧ (shouldAbsorb s k = true → x ∉ s.absorbed)) ∨ x = k

theorem shouldAbsorb_ram (s : State) (k : Key) :
    shouldAbsorb (releaseActionMappings s).1 k = shouldAbsorb s k := by
  simp [shouldAbsorb]

/-- the last output key is one of the output keys: a key-producing mapping (`is_action_mapping`) produces an
action key (`produces_action_key`, the condition of the phase-2 block since the fix of D7) -/
theorem producesActionKey_of_isActionMapping (m : Mapping) (h : isActionMapping m = true) :
    producesActionKey m = true := by
  unfold isActionMapping at h
  cases hl : m.to.getLast? with
  | none => simp [hl] at h
  | some kl =>
    simp only [hl] at h
    simp only [producesActionKey, List.any_eq_true]
    exact ⟨kl, List.mem_of_getLast? hl, h⟩

theorem producesActionKey_iff (m : Mapping) :
    producesActionKey m = true ↔ ∃ y, y ∈ m.to ∧ isActionKey y = true := by
  simp [producesActionKey]

/-- a mapping that outputs modifiers only: `produces_action_key` is false -/
theorem producesActionKey_false_iff (m : Mapping) :
    producesActionKey m = false ↔ ∀ y, y ∈ m.to → isActionKey y = false := by
  simp [producesActionKey]

/-- … and then `is_action_mapping` is false as well -/
theorem isActionMapping_false_of_not_produces (m : Mapping) (h : producesActionKey m = false) :
    isActionMapping m = false := by
  cases ha : isActionMapping m with
  | false => rfl
  | true => rw [producesActionKey_of_isActionMapping m ha] at h; cases h

/-- `if produces_action_key(m) { release_action_mappings }`: the first block of phase 2 -/
def ramIf (m : Mapping) (s : State) : State × List Event :=
  if producesActionKey m then releaseActionMappings s else (s, [])

theorem ramIf_true (m : Mapping) (s : State) (h : producesActionKey m = true) :
    ramIf m s = releaseActionMappings s := by simp [ramIf, h]

theorem ramIf_false (m : Mapping) (s : State) (h : producesActionKey m = false) :
    ramIf m s = (s, []) := by simp [ramIf, h]

@[simp] theorem ramIf_ctl (m : Mapping) (s : State) :
    (ramIf m s).1.inp = s.inp ∧ (ramIf m s).1.active = s.active ∧
    (ramIf m s).1.absorbed = s.absorbed ∧ (ramIf m s).1.absTrig = s.absTrig ∧
    (ramIf m s).1.repTrig = s.repTrig := by
  unfold ramIf; split <;> simp

theorem ramIf_sub (m : Mapping) (s : State) :
    (∀ k, k ∈ (ramIf m s).1.pass → k ∈ s.pass) ∧ (∀ k, k ∈ (ramIf m s).1.mapped → k ∈ s.mapped) := by
  unfold ramIf; split
  · exact releaseActionMappings_sub s
  · exact ⟨fun _ h => h, fun _ h => h⟩

theorem ramIf_spec {extra : List Key} {s : State} (m : Mapping) (h : IInv extra s) :
    RelOp extra s (ramIf m s).1 (ramIf m s).2 := by
  unfold ramIf; split
  · exact releaseActionMappings_spec h
  · exact RelOp.refl h

/-- the condition of the `release_absorbed_keys` block of phase 2 (fix of D6: `|| m.absorbing.len() > 0`) -/
def absorbsNow (s : State) (k : Key) (m : Mapping) : Bool :=
  shouldAbsorb s k && (producesActionKey m || decide (m.absorbing.length > 0))

theorem absorbsNow_true_iff (s : State) (k : Key) (m : Mapping) :
    absorbsNow s k m = true ↔ shouldAbsorb s k = true ∧ (producesActionKey m = true ∨ m.absorbing ≠ []) := by
  simp [absorbsNow, List.length_pos_iff]

theorem absorbsNow_false_iff (s : State) (k : Key) (m : Mapping) :
    absorbsNow s k m = false ↔ shouldAbsorb s k = false ∨ (producesActionKey m = false ∧ m.absorbing = []) := by
  cases h1 : shouldAbsorb s k <;> cases h2 : producesActionKey m <;> simp [absorbsNow, h1, h2]

/-- phase 2 in one equation (all four cases): the `release_absorbed_keys` + consumption block runs on the state
after the conditional `release_action_mappings` iff `absorbsNow` -/
theorem addPhase2_eq (s : State) (k : Key) (m : Mapping) :
    addPhase2 s k m =
      if absorbsNow s k m then
        (afterConsume (releaseAbsorbedKeys (ramIf m s).1).1 m,
          (ramIf m s).2 ++ (releaseAbsorbedKeys (ramIf m s).1).2 ++
            (consume m (releaseAbsorbedKeys (ramIf m s).1).1.pass).2.2)
      else ramIf m s := by
  have h : addPhase2 s k m =
      if shouldAbsorb (ramIf m s).1 k && (producesActionKey m || decide (m.absorbing.length > 0)) then
        ((addPhase1 (releaseAbsorbedKeys (ramIf m s).1).1 m).1,
          (ramIf m s).2 ++ (releaseAbsorbedKeys (ramIf m s).1).2 ++ (addPhase1 (releaseAbsorbedKeys (ramIf m s).1).1 m).2)
      else ramIf m s := rfl
  rw [h]; simp only [shouldAbsorb, ramIf_ctl]; rfl

theorem addPhase2_run (s : State) (k : Key) (m : Mapping) (h : absorbsNow s k m = true) :
    addPhase2 s k m =
        (afterConsume (releaseAbsorbedKeys (ramIf m s).1).1 m,
          (ramIf m s).2 ++ (releaseAbsorbedKeys (ramIf m s).1).2 ++
            (consume m (releaseAbsorbedKeys (ramIf m s).1).1.pass).2.2) := by
  rw [addPhase2_eq, h]; rfl

theorem addPhase2_skip (s : State) (k : Key) (m : Mapping) (h : absorbsNow s k m = false) :
    addPhase2 s k m = ramIf m s := by
  rw [addPhase2_eq, h]; rfl

/-- (restated on `producesActionKey` with the fix of D7; it was `isActionMapping m = false`.  Restated with the fix
of D6: a mapping that is not key-producing leaves the state alone only if it is not absorbing or the trigger is the
pending absorbing trigger; it was `producesActionKey m = false → addPhase2 s k m = (s, [])`.) -/
theorem addPhase2_nonaction (s : State) (k : Key) (m : Mapping) (h : producesActionKey m = false)
    (h2 : m.absorbing = [] ∨ shouldAbsorb s k = false) :
    addPhase2 s k m = (s, []) := by
  rw [addPhase2_skip s k m ((absorbsNow_false_iff s k m).mpr (by grind)), ramIf_false m s h]

/-- the fourth case (new with the fix of D6): not key-producing, absorbing, `should_absorb`:
`release_absorbed_keys` and the consumption run on `s` itself -/
theorem addPhase2_nonaction_absorb (s : State) (k : Key) (m : Mapping) (h : producesActionKey m = false)
    (h1 : m.absorbing ≠ []) (h2 : shouldAbsorb s k = true) :
    addPhase2 s k m = (afterConsume (releaseAbsorbedKeys s).1 m,
      (releaseAbsorbedKeys s).2 ++ (consume m (releaseAbsorbedKeys s).1.pass).2.2) := by
  rw [addPhase2_run s k m ((absorbsNow_true_iff s k m).mpr ⟨h2, Or.inr h1⟩), ramIf_false m s h]
  rfl

/-- (restated on `producesActionKey` with the fix of D7; it was `isActionMapping m = true`) -/
theorem addPhase2_absorb (s : State) (k : Key) (m : Mapping) (h : producesActionKey m = true)
    (h2 : shouldAbsorb s k = true) :
    addPhase2 s k m = (afterConsume (releaseAbsorbedKeys (releaseActionMappings s).1).1 m,
      (releaseActionMappings s).2 ++ (releaseAbsorbedKeys (releaseActionMappings s).1).2 ++
        (consume m (releaseAbsorbedKeys (releaseActionMappings s).1).1.pass).2.2) := by
  rw [addPhase2_run s k m ((absorbsNow_true_iff s k m).mpr ⟨h2, Or.inl h⟩), ramIf_true m s h]

/-- (restated on `producesActionKey` with the fix of D7; it was `isActionMapping m = true`) -/
theorem addPhase2_noabsorb (s : State) (k : Key) (m : Mapping) (h : producesActionKey m = true)
    (h2 : shouldAbsorb s k = false) :
    addPhase2 s k m = releaseActionMappings s := by
  rw [addPhase2_skip s k m ((absorbsNow_false_iff s k m).mpr (Or.inl h2)), ramIf_true m s h]

@[simp] theorem addPhase2_ctl (s : State) (k : Key) (m : Mapping) :
    (addPhase2 s k m).1.inp = (if absorbsNow s k m then s.inp.filter (fun x => !s.absorbed.contains x) else s.inp) ∧
    (addPhase2 s k m).1.active =
      (if absorbsNow s k m then s.active.filter (fun m' => !s.absorbed.any (failsWhenReleased m'.frm)) else s.active) ∧
    (addPhase2 s k m).1.absorbed = (if absorbsNow s k m then [] else s.absorbed) ∧
    (addPhase2 s k m).1.absTrig = (if absorbsNow s k m then none else s.absTrig) ∧
    (addPhase2 s k m).1.repTrig = s.repTrig := by
  rw [addPhase2_eq]; split <;> simp

theorem addPhase2_spec (s : State) (k : Key) (m : Mapping) (h : IInv m.to s) :
    RelOp m.to s (addPhase2 s k m).1 (addPhase2 s k m).2 := by
  have h1 := ramIf_spec m h
  rw [addPhase2_eq]; split
  · have h2 := h1.seq (releaseAbsorbedKeys_spec _ h1.1)
    have h3 := h2.seq (consume_spec _ m h2.1)
    exact ⟨h3.1.mono (by simp), h3.2⟩
  · exact h1

@[simp] theorem addPhase3_ctl (s : State) (k : Key) (m : Mapping) :
    (addPhase3 s k m).1.inp = s.inp ∧ (addPhase3 s k m).1.active = s.active ++ [m] ∧
    (addPhase3 s k m).1.absorbed = addAbsorbed s.absorbed m.absorbing ∧
    (addPhase3 s k m).1.absTrig = (if m.absorbing.length > 0 then some k else s.absTrig) ∧
    (addPhase3 s k m).1.repTrig = s.repTrig := by
  unfold addPhase3; split <;> simp [*]

@[simp] theorem addPhase3_keys (s : State) (k : Key) (m : Mapping) :
    (addPhase3 s k m).1.pass = (pressAll s m.to).1.pass ∧ (addPhase3 s k m).1.mapped = (pressAll s m.to).1.mapped ∧
    (addPhase3 s k m).2 = (pressAll s m.to).2 := by
  unfold addPhase3; split <;> simp

/-- what `ResultingRepeat` a fired mapping produces -/
def repeatOf (m : Mapping) : RRepeat :=
  match m.rep with
  | Repeat.special keys d i => RRepeat.repeating keys d i
  | _ => RRepeat.disabled

@[simp] theorem addPhase4_ctl (s : State) (k : Key) (m : Mapping) :
    (addPhase4 s k m).1.inp = s.inp ∧ (addPhase4 s k m).1.active = s.active ∧
    (addPhase4 s k m).1.absorbed = s.absorbed ∧ (addPhase4 s k m).1.absTrig = s.absTrig ∧
    (addPhase4 s k m).2.2 = repeatOf m := by
  unfold addPhase4 repeatOf; cases m.rep <;> simp

/-- phase 4 does not read `inp`: the push of the pressed key (last statement of `newly_press`) may be done before it -/
theorem addPhase4_setInp (s : State) (k : Key) (m : Mapping) (i : List Key) :
    addPhase4 { s with inp := i } k m = ({ (addPhase4 s k m).1 with inp := i }, (addPhase4 s k m).2) := by
  unfold addPhase4; cases m.rep <;> rfl

theorem addPhase4_normal (s : State) (k : Key) (m : Mapping) (h : m.rep.isNormal = true) :
    addPhase4 s k m = (s, [], RRepeat.disabled) := by
  unfold addPhase4; cases hr : m.rep <;> simp_all [Repeat.isNormal]

theorem mem_addPhase4 (s : State) (k : Key) (m : Mapping) (h : m.rep.isNormal = false) (x : Key) :
    x ∈ held (addPhase4 s k m).1 ↔ x ∈ held s ∧ isActionKey x = false := by
  unfold addPhase4; cases hr : m.rep <;> simp_all [Repeat.isNormal] <;> grind

theorem addPhase4_spec {extra : List Key} (s : State) (k : Key) (m : Mapping) (h : IInv extra s) :
    RelOp extra s (addPhase4 s k m).1 (addPhase4 s k m).2.1 := by
  have h1 := releaseAllActionKeys_spec s h
  unfold addPhase4; cases m.rep
  · exact RelOp.refl h
  · exact h1
  · exact ⟨h1.1.congr rfl rfl rfl rfl, IRelW.of_emits h1.2.emits h1.2.allRel h1.2.inpSub h1.2.actSub⟩


/-- the last statement of `newly_press` -/
def pushInp (s : State) (k : Key) : State := { s with inp := s.inp ++ [k] }

@[simp] theorem pushInp_ctl (s : State) (k : Key) :
    (pushInp s k).inp = s.inp ++ [k] ∧ (pushInp s k).active = s.active ∧ (pushInp s k).pass = s.pass ∧
    (pushInp s k).mapped = s.mapped ∧ (pushInp s k).absorbed = s.absorbed ∧
    (pushInp s k).absTrig = s.absTrig ∧ (pushInp s k).repTrig = s.repTrig := ⟨rfl, rfl, rfl, rfl, rfl, rfl, rfl⟩

theorem addNewMapping_eq (s : State) (k : Key) (m : Mapping) :
    addNewMapping s k m =
      let r1 := addPhase1 s m
      let r2 := addPhase2 r1.1 k m
      let r3 := addPhase3 r2.1 k m
      let r4 := addPhase4 r3.1 k m
      (r4.1, ⟨r1.2 ++ r2.2 ++ r3.2 ++ r4.2.1, r4.2.2⟩) := rfl

/-- the five other fields after firing `m`, in terms of the state before -/
@[simp] theorem addNewMapping_ctl (s : State) (k : Key) (m : Mapping) :
    (addNewMapping s k m).1.inp = (if absorbsNow s k m then s.inp.filter (fun x => !s.absorbed.contains x) else s.inp) ∧
    (addNewMapping s k m).1.active =
      (if absorbsNow s k m then s.active.filter (fun m' => !s.absorbed.any (failsWhenReleased m'.frm)) else s.active)
        ++ [m] ∧
    (addNewMapping s k m).1.absorbed = addAbsorbed (if absorbsNow s k m then [] else s.absorbed) m.absorbing ∧
    (addNewMapping s k m).1.absTrig =
      (if m.absorbing.length > 0 then some k else if absorbsNow s k m then none else s.absTrig) ∧
    (addNewMapping s k m).2.rep = repeatOf m := by
  have : absorbsNow (afterConsume s m) k m = absorbsNow s k m := rfl
  simp [addNewMapping_eq, addPhase1_eq, this]

/-- installing `m` (pushing it onto `active`, and the pressed key onto `inp`) discharges `extra = m.to` -/
theorem IInv.install {s t : State} {m : Mapping} {k : Key} (h : IInv m.to s) (hp : t.pass = s.pass)
    (hm : t.mapped = s.mapped) (hi : t.inp = s.inp ++ [k]) (ha : t.active = s.active ++ [m])
    (hfrm : ∀ x, x ∈ m.frm → x ∈ s.inp ∨ x = k) : IInv [] t := by
  refine ⟨hp ▸ h.ndPass, hm ▸ h.ndMapped, hp ▸ hm ▸ h.disj, ?_, ?_, ?_⟩
  · intro x hx
    rw [hi]; rw [hp] at hx
    exact List.mem_append_left _ (h.passInp x hx)
  · intro m' hm' x hx
    rw [hi]; rw [ha] at hm'
    rcases List.mem_append.mp hm' with hm' | hm'
    · exact List.mem_append_left _ (h.actInp m' hm' x hx)
    · cases List.mem_singleton.mp hm'
      exact (hfrm x hx).elim (List.mem_append_left _) fun e => List.mem_append_right _ (by simp [e])
  · intro x hx
    rw [hm] at hx; rw [ha]
    rcases h.mappedAct x hx with h1 | ⟨m', h1, h2⟩
    · exact Or.inr ⟨m, by simp, h1⟩
    · exact Or.inr ⟨m', List.mem_append_left _ h1, h2⟩

/-- What a firing press does to the keys, from held-set `V` to `V'`: legal events; only keys of `m.to` are pressed,
each action key among them is; afterwards the modifiers of `m.to` are down, all of `m.to` if repeat is normal, and no
action key at all otherwise. -/
structure Fires (V : List Key) (m : Mapping) (evs : List Event) (V' : List Key) : Prop where
  emits : Emits V evs V'
  only : ∀ x, Event.pressed x ∈ evs → x ∈ m.to
  action : ∀ x, x ∈ m.to → isActionKey x = true → Event.pressed x ∈ evs
  mods : ∀ x, x ∈ m.to → isActionKey x = false → x ∈ V'
  all : m.rep.isNormal = true → ∀ x, x ∈ m.to → x ∈ V'
  lifted : m.rep.isNormal = false → ∀ x, x ∈ V' → isActionKey x = false

/-- a release-only run before does not change what a firing press does -/
theorem Fires.after {s0 s : State} {m : Mapping} {a b : List Event} {V' : List Key} (h0 : IRelW s0 s a)
    (h : Fires (held s) m b V') : Fires (held s0) m (a ++ b) V' := by
  refine ⟨h0.emits.trans h.emits, ?_, fun x hx ha => List.mem_append_right _ (h.action x hx ha), h.mods, h.all,
    h.lifted⟩
  intro x hx
  rcases List.mem_append.mp hx with hx | hx
  · cases h0.allRel _ hx
  · exact h.only x hx

/-- the state at the end of an accepted press that fires `m` (phases 3 and 4 of `add_new_mapping`, and the push of
the pressed key onto `inp`), from the state after phase 2 -/
def finishFire (s : State) (k : Key) (m : Mapping) : State :=
  { (addPhase4 (addPhase3 s k m).1 k m).1 with inp := s.inp ++ [k] }

@[simp] theorem finishFire_ctl (s : State) (k : Key) (m : Mapping) :
    (finishFire s k m).inp = s.inp ++ [k] ∧ (finishFire s k m).active = s.active ++ [m] ∧
    (finishFire s k m).absorbed = addAbsorbed s.absorbed m.absorbing ∧
    (finishFire s k m).absTrig = (if m.absorbing.length > 0 then some k else s.absTrig) := by
  simp [finishFire]

theorem pushInp_addNewMapping (s : State) (k : Key) (m : Mapping) :
    pushInp (addNewMapping s k m).1 k = finishFire (addPhase2 (afterConsume s m) k m).1 k m := by
  simp [pushInp, finishFire, addNewMapping_eq, addPhase1_eq]

theorem finishFire_spec (s : State) (k : Key) (m : Mapping) (h : IInv m.to s)
    (hfrm : ∀ x, x ∈ m.frm → x ∈ s.inp ∨ x = k) :
    IInv [] (finishFire s k m) ∧
    Fires (held s) m ((addPhase3 s k m).2 ++ (addPhase4 (addPhase3 s k m).1 k m).2.1) (held (finishFire s k m)) := by
  have e := pressAll_spec s m.to h fun _ hx => hx
  have i3 : IInv [] { (addPhase3 s k m).1 with inp := s.inp ++ [k] } :=
    e.1.install (k := k) (by simp) (by simp) (by simp) (by simp) (by simpa using hfrm)
  have f := addPhase4_spec _ k m i3
  rw [addPhase4_setInp] at f
  have hh : ∀ x, x ∈ held (finishFire s k m) ↔
      (x ∈ held s ∨ x ∈ m.to) ∧ (m.rep.isNormal = true ∨ isActionKey x = false) := by
    intro x; rw [← e.2.heldIff]
    cases hn : m.rep.isNormal
    · simpa [finishFire, held] using mem_addPhase4 (addPhase3 s k m).1 k m hn x
    · simp [finishFire, held, addPhase4_normal _ k m hn]
  refine ⟨f.1, ?_, ?_, ?_, ?_, ?_, ?_⟩
  · simpa [held] using e.2.emits.trans (by simpa [held, finishFire] using f.2.emits)
  · intro x hx
    rcases List.mem_append.mp hx with hx | hx
    · exact e.2.only x (by simpa using hx)
    · cases f.2.allRel _ hx
  · intro x hx ha; exact List.mem_append_left _ (by simpa using e.2.action x hx ha)
  · exact fun x hx ha => (hh x).mpr ⟨Or.inr hx, Or.inr ha⟩
  · exact fun hn x hx => (hh x).mpr ⟨Or.inr hx, Or.inl hn⟩
  · exact fun hn x hx => ((hh x).mp hx).2.resolve_left (by simp [hn])

theorem addNewMapping_spec (s : State) (k : Key) (m : Mapping) (h : IInv [] s) (hsup : Supported s k m) :
    IInv [] (pushInp (addNewMapping s k m).1 k) ∧
    Fires (held s) m (addNewMapping s k m).2.events (held (addNewMapping s k m).1) := by
  have d := (consume_spec s m h).seq (addPhase2_spec _ k m (consume_spec s m h).1)
  have f := finishFire_spec (addPhase2 (afterConsume s m) k m).1 k m d.1 (by
    intro x hx
    rcases hsup x hx with ⟨h1, h2⟩ | h1
    · left; rw [(addPhase2_ctl _ k m).1]; split
      · rename_i hb; simpa [h1] using h2 ((absorbsNow_true_iff _ k m).mp hb).1
      · exact h1
    · exact Or.inr h1)
  refine ⟨pushInp_addNewMapping s k m ▸ f.1, ?_⟩
  have := Fires.after d.2 f.2
  rw [← List.append_assoc] at this; exact this


/-! ### newlyPress -/

@[simp] theorem pressPrep_ctl (s : State) (k : Key) :
    (pressPrep s k).inp = s.inp ∧ (pressPrep s k).active = s.active ∧ (pressPrep s k).pass = s.pass ∧
    (pressPrep s k).mapped = s.mapped ∧ (pressPrep s k).absorbed = s.absorbed.filter (fun x => x != k) ∧
    (pressPrep s k).absTrig = s.absTrig ∧ (pressPrep s k).repTrig = none := ⟨rfl, rfl, rfl, rfl, rfl, rfl, rfl⟩

theorem pressPrep_iinv {extra : List Key} {s : State} (k : Key) (h : IInv extra s) : IInv extra (pressPrep s k) :=
  h.congr rfl rfl rfl rfl

theorem mem_group (L : Layout) (k : Key) (m : Mapping) :
    m ∈ group L k ↔ m ∈ L ∧ finalKey? m = some k := by
  simp [group]

theorem findMapping_some {L : Layout} {s : State} {k : Key} {m : Mapping}
    (h : findMapping L s k = some m) :
    m ∈ L ∧ finalKey? m = some k ∧ Supported (pressPrep s k) k m := by
  unfold findMapping at h
  have h1 := List.find?_some h
  have h2 := List.mem_of_find?_eq_some h
  simp only [List.mem_reverse, mem_group] at h2
  refine ⟨h2.1, h2.2, ?_⟩
  intro x hx
  simp only [isSupported, List.all_eq_true] at h1
  have h3 := h1 x hx
  simp only [Bool.or_eq_true, Bool.and_eq_true, List.contains_eq_mem, decide_eq_true_eq,
    Bool.not_eq_eq_eq_not, Bool.not_true, decide_eq_false_iff_not, beq_iff_eq] at h3
  rcases h3 with h3 | h3
  · refine Or.inl ⟨h3.1, ?_⟩
    intro hsa; simpa [hsa] using h3.2
  · exact Or.inr h3

theorem findMapping_none_not_hidden {L : Layout} {s : State} {k : Key}
    (h : findMapping L s k = none) : hidden L k = false := by
  unfold findMapping at h
  rw [List.find?_eq_none] at h
  cases hh : hidden L k with
  | false => rfl
  | true =>
    exfalso
    simp only [hidden, Bool.and_eq_true, List.any_eq_true, beq_iff_eq] at hh
    obtain ⟨⟨m, hm, hf⟩, _⟩ := hh
    have := h m (by simp [mem_group, hm, finalKey?, hf])
    simp [isSupported, hf] at this

theorem finalKey_mem {m : Mapping} {k : Key} (h : finalKey? m = some k) : k ∈ m.frm := by
  unfold finalKey? at h
  exact List.mem_of_getLast? h

/-- the release part of the pass-through branch: an action key first lets go of the key-producing mappings' output
and of the absorbed keys -/
def passRel (s : State) (k : Key) : State × List Event :=
  if isActionKey k then
    ((releaseAbsorbedKeys (releaseActionMappings s).1).1,
     (releaseActionMappings s).2 ++ (releaseAbsorbedKeys (releaseActionMappings s).1).2)
  else (s, [])

theorem passThrough_eq (s : State) (k : Key) :
    passThrough s k =
      ({ (passRel s k).1 with pass := (passRel s k).1.pass ++ [k] }, (passRel s k).2 ++ [Event.pressed k]) := rfl

@[simp] theorem passRel_ctl (s : State) (k : Key) :
    (passRel s k).1.inp = (if isActionKey k then s.inp.filter (fun x => !s.absorbed.contains x) else s.inp) ∧
    (passRel s k).1.active =
      (if isActionKey k then s.active.filter (fun m => !s.absorbed.any (failsWhenReleased m.frm)) else s.active) ∧
    (passRel s k).1.absorbed = (if isActionKey k then [] else s.absorbed) ∧
    (passRel s k).1.absTrig = (if isActionKey k then none else s.absTrig) ∧
    (passRel s k).1.repTrig = s.repTrig := by
  unfold passRel; split <;> simp

theorem passRel_spec {extra : List Key} (s : State) (k : Key) (h : IInv extra s) :
    RelOp extra s (passRel s k).1 (passRel s k).2 := by
  unfold passRel; split
  · exact (releaseActionMappings_spec h).seq (releaseAbsorbedKeys_spec _ (releaseActionMappings_spec h).1)
  · exact RelOp.refl h

theorem IInv.pushInp {extra : List Key} {s : State} (h : IInv extra s) (k : Key) : IInv extra (pushInp s k) :=
  ⟨h.ndPass, h.ndMapped, h.disj, fun x hx => List.mem_append_left _ (h.passInp x hx),
    fun m hm x hx => List.mem_append_left _ (h.actInp m hm x hx), h.mappedAct⟩

/-- passing an input key through that is not held on the output yet -/
theorem IInv.passKey {extra : List Key} {s : State} {k : Key} (h : IInv extra s) (hi : k ∈ s.inp) (hp : k ∉ s.pass)
    (hm : k ∉ s.mapped) : IInv extra { s with pass := s.pass ++ [k] } := by
  refine ⟨List.nodup_append.mpr ⟨h.ndPass, by simp, ?_⟩, h.ndMapped, ?_, ?_, h.actInp, h.mappedAct⟩
  · intro a ha b hb e
    cases List.mem_singleton.mp hb
    exact hp (e ▸ ha)
  · intro x hx
    rcases List.mem_append.mp hx with hx | hx
    · exact h.disj x hx
    · exact List.mem_singleton.mp hx ▸ hm
  · intro x hx
    rcases List.mem_append.mp hx with hx | hx
    · exact h.passInp x hx
    · exact List.mem_singleton.mp hx ▸ hi

theorem passThrough_spec (s : State) (k : Key) (h : IInv [] s) (hk : k ∉ s.pass)
    (hnohit : ∀ m, m ∈ s.active → k ∉ m.frm ∧ k ∉ m.to) :
    IInv [] (pushInp (passThrough s k).1 k) ∧
    Emits (held s) (passThrough s k).2 (held (passThrough s k).1) ∧
    (∀ x, Event.pressed x ∈ (passThrough s k).2 → x = k) := by
  have hkm : k ∉ s.mapped := by
    intro hm
    rcases h.mappedAct k hm with h1 | ⟨m, hm1, hm2⟩
    · simp at h1
    · exact (hnohit m hm1).2 hm2
  obtain ⟨hi, hr⟩ := passRel_spec s k h
  rw [passThrough_eq]
  generalize passRel s k = r at hi hr
  have hk1 : k ∉ r.1.pass := fun hx => (hr.passFrom k hx).elim hk hkm
  have hk2 : k ∉ r.1.mapped := fun hx => (hr.mappedFrom k hx).elim hkm hk
  refine ⟨(hi.pushInp k).passKey (List.mem_append_right _ (List.mem_singleton_self k)) hk1 hk2, ?_, ?_⟩
  · refine hr.emits.trans (Emits.press (by simp [hk1, hk2]) fun x => ?_)
    simp only [mem_held, List.mem_append, List.mem_singleton]
    exact or_right_comm
  · intro x hx
    rcases List.mem_append.mp hx with hx | hx
    · cases hr.allRel _ hx
    · simpa using hx

end TmVerif
