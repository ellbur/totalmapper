/-
Keys that appear nowhere in the layout ("foreign" keys): they are never mapped, never absorbed, and
every step treats their pass-through membership as C05 says.
-/
import TmVerif.Proofs.PassKeep

namespace TmVerif

theorem foreign_iff (L : Layout) (k : Key) :
    foreign L k = true ↔ ∀ m, m ∈ L → k ∉ m.frm ∧ k ∉ m.to ∧ k ∉ m.absorbing := by
  simp [foreign, and_assoc]

theorem mem_addAbsorbed (a b : List Key) (x : Key) : x ∈ addAbsorbed a b → x ∈ a ∨ x ∈ b := by
  induction b generalizing a with
  | nil => exact fun h => Or.inl h
  | cons y b ih =>
    simp only [addAbsorbed]
    split
    · intro h; rcases ih a h with h1 | h1
      · exact Or.inl h1
      · exact Or.inr (by simp [h1])
    · intro h; rcases ih (a ++ [y]) h with h1 | h1
      · simp at h1; rcases h1 with h1 | h1
        · exact Or.inl h1
        · exact Or.inr (by simp [h1])
      · exact Or.inr (by simp [h1])

/-- every absorbed key comes from the absorbing list of a mapping of the layout -/
def AbsL (L : Layout) (s : State) : Prop := ∀ x, x ∈ s.absorbed → ∃ m, m ∈ L ∧ x ∈ m.absorbing

theorem addPhase2_absorbed_sub (s : State) (k : Key) (m : Mapping) (x : Key)
    (hx : x ∈ (addPhase2 s k m).1.absorbed) : x ∈ s.absorbed := by
  rw [(addPhase2_ctl s k m).2.2.1] at hx; split at hx
  · cases hx
  · exact hx

theorem addNewMapping_absorbed_sub (s : State) (k : Key) (m : Mapping) (x : Key)
    (hx : x ∈ (addNewMapping s k m).1.absorbed) : x ∈ s.absorbed ∨ x ∈ m.absorbing := by
  rw [(addNewMapping_ctl s k m).2.2.1] at hx
  refine (mem_addAbsorbed _ _ x hx).imp_left fun h => ?_
  split at h
  · cases h
  · exact h

theorem passThrough_absorbed_sub (s : State) (k : Key) (x : Key)
    (hx : x ∈ (passThrough s k).1.absorbed) : x ∈ s.absorbed := by
  rw [passThrough_eq] at hx; simp only [passRel_ctl] at hx; split at hx
  · cases hx
  · exact hx

theorem AbsL.step {L : Layout} {s : State} (ha : AbsL L s) (e : Event) : AbsL L (TmVerif.step L s e).1 := by
  have hp (k x) : x ∈ (pressPrep s k).absorbed → x ∈ s.absorbed := fun hx => (List.mem_filter.mp hx).1
  rcases step_cases L s e with ⟨_, hs⟩ | ⟨k, _, _, hs⟩ | ⟨k, m, _, _, hf, hs⟩ | ⟨k, _, _, _, _, hs⟩ |
    ⟨k, _, _, _, _, hs⟩ <;> rw [hs] <;> intro x hx
  · exact ha x hx
  · exact ha x (by simpa using hx)
  · rcases addNewMapping_absorbed_sub _ k m x hx with h1 | h1
    · exact ha x (hp k x h1)
    · exact ⟨m, (findMapping_some hf).1, h1⟩
  · exact ha x (hp k x (passThrough_absorbed_sub _ k x hx))
  · exact ha x (hp k x hx)

theorem Reachable.absL {L : Layout} {x : Sys} (h : Reachable L x) : AbsL L x.s :=
  Reachable.invariant (by intro x hx; simp [State.init] at hx) (fun _ _ e _ ha => ha.step e) h

/-- a foreign key is never a mapped output key, never absorbed -/
theorem foreign_not_mapped {L : Layout} {P : List Key} {s : State} (h : Inv L P s) {k : Key}
    (hf : foreign L k = true) : k ∉ s.mapped := by
  intro hm
  rcases h.i.mappedAct k hm with h1 | ⟨m, hma, hk⟩
  · simp at h1
  · exact ((foreign_iff L k).mp hf m (h.actL m hma)).2.1 hk

theorem foreign_not_absorbed {L : Layout} {s : State} (ha : AbsL L s) {k : Key}
    (hf : foreign L k = true) : k ∉ s.absorbed := by
  intro hm
  obtain ⟨m, hmL, hk⟩ := ha k hm
  exact ((foreign_iff L k).mp hf m hmL).2.2 hk

/-- firing `m` (which does not mention the foreign key `k`): `k` stays in pass-through, unless `m` is
a no-repeat mapping and `k` is a non-modifier key -/
theorem addNewMapping_foreign_pass (s : State) (k0 : Key) (m : Mapping) (h : IInv [] s) (k : Key)
    (h1 : k ∉ m.frm) (h2 : k ∉ m.to) (hm : k ∉ s.mapped) (ha : k ∉ s.absorbed) :
    (k ∈ (addNewMapping s k0 m).1.pass ↔ k ∈ s.pass ∧ (m.rep.isNormal = true ∨ isActionKey k = false)) := by
  rw [addNewMapping_eq]
  simp only [addPhase1_eq]
  have c1 := (consume_spec s m h).1
  simp only [List.nil_append] at c1
  have p1 := afterConsume_pass s m k h1 h2
  have hm1 : k ∉ (afterConsume s m).mapped := fun hh => hm (p1.2.mp hh)
  -- phase 2
  have p2 : (k ∈ (addPhase2 (afterConsume s m) k0 m).1.pass ↔ k ∈ (afterConsume s m).pass) ∧
      k ∉ (addPhase2 (afterConsume s m) k0 m).1.mapped := by
    have r1 : k ∈ (ramIf m (afterConsume s m)).1.pass ↔ k ∈ (afterConsume s m).pass := by
      cases hact : producesActionKey m
      · rw [ramIf_false m _ hact]
      · rw [ramIf_true m _ hact]; exact ram_pass (afterConsume s m) k hm1 c1
    have hr1 := ramIf_spec m c1
    have hm2 : k ∉ (ramIf m (afterConsume s m)).1.mapped := fun hh => hm1 ((ramIf_sub m _).2 k hh)
    cases hb : absorbsNow (afterConsume s m) k0 m
    · rw [addPhase2_skip _ k0 m hb]; exact ⟨r1, hm2⟩
    · rw [addPhase2_run _ k0 m hb]
      have r2 := releaseAbsorbedKeys_pass (ramIf m (afterConsume s m)).1 k (by simpa using ha) hm2 hr1.1
      have r3 := afterConsume_pass (releaseAbsorbedKeys (ramIf m (afterConsume s m)).1).1 m k h1 h2
      exact ⟨r3.1.trans (r2.1.trans r1), fun hh => r2.2 (r3.2.mp hh)⟩
  have d1 := (addPhase2_spec (afterConsume s m) k0 m c1).1
  have p3 := pressAll_pass (addPhase2 (afterConsume s m) k0 m).1 m.to k h2
  have hpass3 : (addPhase3 (addPhase2 (afterConsume s m) k0 m).1 k0 m).1.pass =
      (pressAll (addPhase2 (afterConsume s m) k0 m).1 m.to).1.pass := by
    unfold addPhase3; split <;> rfl
  have base : k ∈ (addPhase3 (addPhase2 (afterConsume s m) k0 m).1 k0 m).1.pass ↔ k ∈ s.pass := by
    rw [hpass3]; exact p3.1.trans (p2.1.trans p1.1)
  cases hr : m.rep with
  | normal =>
    simp only [addPhase4, hr, Repeat.isNormal]
    rw [base]; simp
  | disabled =>
    simp only [addPhase4, hr, Repeat.isNormal]
    rw [(raak_pass _ k).1, base]; simp
  | special ks d i =>
    simp only [addPhase4, hr, Repeat.isNormal]
    rw [(raak_pass _ k).1, base]; simp

theorem passThrough_foreign_pass (s : State) (k0 k : Key) (hne : k ≠ k0) (h : IInv [] s)
    (hm : k ∉ s.mapped) (ha : k ∉ s.absorbed) :
    k ∈ (passThrough s k0).1.pass ↔ k ∈ s.pass := by
  unfold passThrough
  cases hact : isActionKey k0
  · simp [hne]
  · simp only [if_true]
    have r1 := ram_pass s k hm h
    have hr1 := releaseActionMappings_spec h
    have hm2 : k ∉ (releaseActionMappings s).1.mapped := fun hh => hm ((releaseActionMappings_sub s).2 k hh)
    have r2 := releaseAbsorbedKeys_pass (releaseActionMappings s).1 k (by simpa using ha) hm2 hr1.1
    simp only [List.mem_append, List.mem_singleton, hne, or_false]
    exact r2.1.trans r1

end TmVerif
