/-
Internal invariants of the mapper model and their preservation by every sub-function of a step: the invariant, the
release relation and the release path here, the press path in `Proofs/Press.lean`.

Three kinds of statement per sub-function, kept apart:
* `f_ctl` (`@[simp]`, unconditional): what `f` does to the five fields other than `pass` and `mapped`
  (`inp`, `active`, `absorbed`, `absTrig`, `repTrig`), in closed form.  `simp` splits the conjunction.
* `f_spec`: `IInv` is preserved and the events are a release-only run (`IRelW`), or a press run (`Presses`).
* what is particular to `f`, as lemmas of their own.

`IInv extra s` — structural invariant (I1, I3, I4b, I5 of DESIGN §7); `extra` are output keys of a mapping that
is being installed (between `consume` and the push onto `active` in `addNewMapping`).
`IRelW s s' evs` — what a release-only sub-operation may do.
-/
import TmVerif.Proofs.Emits

namespace TmVerif

def held (s : State) : List Key := s.pass ++ s.mapped

@[simp] theorem mem_held (s : State) (k : Key) : k ∈ held s ↔ k ∈ s.pass ∨ k ∈ s.mapped := by
  simp [held]

structure IInv (extra : List Key) (s : State) : Prop where
  ndPass : s.pass.Nodup
  ndMapped : s.mapped.Nodup
  disj : ∀ k, k ∈ s.pass → k ∉ s.mapped
  passInp : ∀ k, k ∈ s.pass → k ∈ s.inp
  actInp : ∀ m, m ∈ s.active → ∀ k, k ∈ m.frm → k ∈ s.inp
  mappedAct : ∀ k, k ∈ s.mapped → k ∈ extra ∨ ∃ m, m ∈ s.active ∧ k ∈ m.to

/-- weaken `extra` -/
theorem IInv.mono {e1 e2 : List Key} {s : State} (h : IInv e1 s) (hsub : ∀ k, k ∈ e1 → k ∈ e2) : IInv e2 s :=
  ⟨h.ndPass, h.ndMapped, h.disj, h.passInp, h.actInp, fun k hk => (h.mappedAct k hk).imp (hsub k) id⟩

/-- `IInv` reads four fields only -/
theorem IInv.congr {extra : List Key} {s t : State} (h : IInv extra s) (hp : t.pass = s.pass)
    (hm : t.mapped = s.mapped) (hi : t.inp = s.inp) (ha : t.active = s.active) : IInv extra t := by
  obtain ⟨_, _, _, _, _, _, _⟩ := t
  cases hp; cases hm; cases hi; cases ha
  exact ⟨h.ndPass, h.ndMapped, h.disj, h.passInp, h.actInp, h.mappedAct⟩

/-- What a release-only sub-operation may do: legal events tracking `pass ∪ mapped`, releases only, `inp` and
`active` only shrink; keys may move between `pass` and `mapped` (hand-over by `remove_mapping`, consumption by
`consume_pass_through_keys`).  The last three fields follow from the first two (`IRelW.of_emits`). -/
structure IRelW (s s' : State) (evs : List Event) : Prop where
  emits : Emits (held s) evs (held s')
  allRel : ∀ e, e ∈ evs → e.isRelease = true
  relHeld : ∀ k, Event.released k ∈ evs → k ∈ s.pass ∨ k ∈ s.mapped
  inpSub : ∀ k, k ∈ s'.inp → k ∈ s.inp
  actSub : ∀ m, m ∈ s'.active → m ∈ s.active
  passFrom : ∀ k, k ∈ s'.pass → k ∈ s.pass ∨ k ∈ s.mapped
  mappedFrom : ∀ k, k ∈ s'.mapped → k ∈ s.mapped ∨ k ∈ s.pass

theorem IRelW.of_emits {s s' : State} {evs : List Event} (he : Emits (held s) evs (held s'))
    (hr : ∀ e, e ∈ evs → e.isRelease = true) (hi : ∀ k, k ∈ s'.inp → k ∈ s.inp)
    (ha : ∀ m, m ∈ s'.active → m ∈ s.active) : IRelW s s' evs := by
  have h := legal_releases he.1 hr
  have hsub : ∀ k, k ∈ held s' → k ∈ s.pass ∨ k ∈ s.mapped :=
    fun k hk => (mem_held s k).mp (h.2 k ((he.2 k).mpr hk))
  exact ⟨he, hr, fun k hk => (mem_held s k).mp (h.1 k hk), hi, ha,
    fun k hk => hsub k (by simp [hk]), fun k hk => (hsub k (by simp [hk])).symm⟩

/-- releasing a duplicate-free list of held keys, in one go -/
theorem IRelW.of_releases {s s' : State} {ks : List Key} (hnd : ks.Nodup)
    (hheld : ∀ x, x ∈ held s' ↔ x ∈ held s ∧ x ∉ ks) (hsub : ∀ k, k ∈ ks → k ∈ held s)
    (hi : ∀ k, k ∈ s'.inp → k ∈ s.inp) (ha : ∀ m, m ∈ s'.active → m ∈ s.active) :
    IRelW s s' (ks.map Event.released) :=
  IRelW.of_emits (Emits.releases hnd hsub hheld)
    (by intro e he; obtain ⟨k, _, rfl⟩ := List.mem_map.mp he; rfl) hi ha

theorem IRelW.refl (s : State) : IRelW s s [] :=
  IRelW.of_emits (Emits.refl _) (by simp) (fun _ h => h) (fun _ h => h)

theorem IRelW.trans {s s1 s2 : State} {a b : List Event} (h1 : IRelW s s1 a) (h2 : IRelW s1 s2 b) :
    IRelW s s2 (a ++ b) :=
  IRelW.of_emits (h1.emits.trans h2.emits)
    (fun e he => (List.mem_append.mp he).elim (h1.allRel e) (h2.allRel e))
    (fun k h => h1.inpSub k (h2.inpSub k h)) (fun m h => h1.actSub m (h2.actSub m h))

/-- a release-only operation that preserves the invariant; closed under sequencing -/
def RelOp (extra : List Key) (s s' : State) (evs : List Event) : Prop :=
  IInv extra s' ∧ IRelW s s' evs

theorem RelOp.refl {extra : List Key} {s : State} (h : IInv extra s) : RelOp extra s s [] :=
  ⟨h, IRelW.refl s⟩

theorem RelOp.seq {e1 e2 : List Key} {s s1 s2 : State} {a b : List Event} (h1 : RelOp e1 s s1 a)
    (h2 : RelOp e2 s1 s2 b) : RelOp e2 s s2 (a ++ b) :=
  ⟨h2.1, h1.2.trans h2.2⟩

/-! ### keysToRelease / releaseActionMappings -/

theorem collectKeys_spec (mapped : List Key) (acc ks : List Key)
    (hnd : acc.Nodup) (hsub : ∀ k, k ∈ acc → k ∈ mapped) :
    (collectKeys mapped acc ks).Nodup ∧ (∀ k, k ∈ collectKeys mapped acc ks → k ∈ mapped) := by
  induction ks generalizing acc with
  | nil => exact ⟨hnd, hsub⟩
  | cons k ks ih =>
    simp only [collectKeys]
    split
    · rename_i hc
      simp only [Bool.and_eq_true, List.contains_eq_mem, decide_eq_true_eq, Bool.not_eq_eq_eq_not,
        Bool.not_true, decide_eq_false_iff_not] at hc
      refine ih _ (List.nodup_append.mpr ⟨hnd, by simp, ?_⟩) fun x hx =>
        (List.mem_append.mp hx).elim (hsub x) fun hx => List.mem_singleton.mp hx ▸ hc.1
      intro a ha b hb e
      cases List.mem_singleton.mp hb
      exact hc.2 (e ▸ ha)
    · exact ih acc hnd hsub

theorem keysToRelease_spec (mapped : List Key) (acc : List Key) (ms : List Mapping)
    (hnd : acc.Nodup) (hsub : ∀ k, k ∈ acc → k ∈ mapped) :
    (keysToRelease mapped acc ms).Nodup ∧ (∀ k, k ∈ keysToRelease mapped acc ms → k ∈ mapped) := by
  induction ms generalizing acc with
  | nil => exact ⟨hnd, hsub⟩
  | cons m ms ih =>
    simp only [keysToRelease]
    split
    · have := collectKeys_spec mapped acc m.to.reverse hnd hsub
      exact ih _ this.1 this.2
    · exact ih acc hnd hsub

@[simp] theorem releaseActionMappings_ctl (s : State) :
    (releaseActionMappings s).1.inp = s.inp ∧ (releaseActionMappings s).1.active = s.active ∧
    (releaseActionMappings s).1.absorbed = s.absorbed ∧ (releaseActionMappings s).1.absTrig = s.absTrig ∧
    (releaseActionMappings s).1.repTrig = s.repTrig := ⟨rfl, rfl, rfl, rfl, rfl⟩

/-- `pass` and `mapped` only shrink -/
theorem releaseActionMappings_sub (s : State) :
    (∀ k, k ∈ (releaseActionMappings s).1.pass → k ∈ s.pass) ∧
    (∀ k, k ∈ (releaseActionMappings s).1.mapped → k ∈ s.mapped) :=
  ⟨fun _ h => (List.mem_filter.mp h).1, fun _ h => (List.mem_filter.mp h).1⟩

theorem releaseActionMappings_spec {extra : List Key} {s : State} (h : IInv extra s) :
    RelOp extra s (releaseActionMappings s).1 (releaseActionMappings s).2 := by
  have hk := keysToRelease_spec s.mapped [] s.active (by simp) (by simp)
  have hd := h.disj
  refine ⟨⟨h.ndPass.filter _, h.ndMapped.filter _, ?_, ?_, h.actInp, ?_⟩,
    IRelW.of_releases hk.1 ?_ (fun k hk1 => by simp [hk.2 k hk1]) (fun _ h => h) (fun _ h => h)⟩
  · intro k h1 h2; exact hd k (List.mem_filter.mp h1).1 (List.mem_filter.mp h2).1
  · intro k h1; exact h.passInp k (List.mem_filter.mp h1).1
  · intro k h1; exact h.mappedAct k (List.mem_filter.mp h1).1
  · intro x; simp [releaseActionMappings]; grind

/-! ### removeMapping -/

def hoP (inp : List Key) (others : List Mapping) (rk : Key) (k : Key) : Bool :=
  !usedBy others k && (inp.contains k && k != rk) && !shadowedBy others k

def relP (inp : List Key) (others : List Mapping) (rk : Key) (k : Key) : Bool :=
  !usedBy others k && !((inp.contains k && k != rk) && !shadowedBy others k)

theorem removeScan_eq (inp : List Key) (others : List Mapping) (rk : Key) (l : List Key) :
    removeScan inp others rk l =
      (l.filter (hoP inp others rk), (l.filter (relP inp others rk)).map Event.released) := by
  induction l with
  | nil => rfl
  | cons k ks ih =>
    cases h1 : usedBy others k <;> cases h2 : (inp.contains k && k != rk) <;> cases h3 : shadowedBy others k <;>
      simp only [removeScan, ih, List.filter_cons, hoP, relP, h1, h2, h3, Bool.not_false, Bool.not_true, Bool.and_true,
        Bool.and_false, Bool.true_and, Bool.false_and, Bool.false_eq_true, if_true, if_false, List.map_cons]

theorem usedBy_iff (others : List Mapping) (k : Key) :
    usedBy others k = true ↔ ∃ m, m ∈ others ∧ k ∈ m.to := by
  simp [usedBy]

theorem shadowedBy_iff (others : List Mapping) (k : Key) :
    shadowedBy others k = true ↔ ∃ m, m ∈ others ∧ k ∈ m.frm := by
  simp [shadowedBy]

theorem removeMapping_eq (s : State) (before after : List Mapping) (rk : Key) :
    removeMapping s before after rk =
      ({ s with mapped := s.mapped.filter (usedBy (before ++ after)),
                pass := s.pass ++ s.mapped.reverse.filter (hoP s.inp (before ++ after) rk),
                active := before ++ after },
       (s.mapped.reverse.filter (relP s.inp (before ++ after) rk)).map Event.released) := by
  simp [removeMapping, removeScan_eq]

theorem nodup_reverse {l : List Key} (h : l.Nodup) : l.reverse.Nodup :=
  (List.reverse_perm l).nodup_iff.mpr h

/-- a key that is handed over was mapped, is used by no other mapping, and is an input key -/
theorem mem_handover {inp : List Key} {others : List Mapping} {rk x : Key} {l : List Key}
    (h : x ∈ l.reverse.filter (hoP inp others rk)) : x ∈ l ∧ usedBy others x = false ∧ x ∈ inp := by
  have h := List.mem_filter.mp h
  simp only [hoP, Bool.and_eq_true, Bool.not_eq_eq_eq_not, Bool.not_true, List.contains_eq_mem,
    decide_eq_true_eq] at h
  exact ⟨List.mem_reverse.mp h.1, h.2.1.1, h.2.1.2.1⟩

theorem removeMapping_spec {extra : List Key} {s : State} {before after : List Mapping} {m : Mapping}
    (rk : Key) (h : IInv extra s) (hact : s.active = before ++ m :: after) :
    RelOp [] s (removeMapping s before after rk).1 (removeMapping s before after rk).2 := by
  rw [removeMapping_eq]
  have hsub : ∀ x, x ∈ before ++ after → x ∈ s.active := by
    intro x hx
    rw [hact]
    exact (List.mem_append.mp hx).elim (List.mem_append_left _) fun hx =>
      List.mem_append_right _ (List.mem_cons_of_mem _ hx)
  refine ⟨⟨?_, h.ndMapped.filter _, ?_, ?_, fun m' hm' => h.actInp m' (hsub m' hm'), ?_⟩,
    IRelW.of_releases ((nodup_reverse h.ndMapped).filter _) ?_ ?_ (fun _ h => h) hsub⟩
  · refine List.nodup_append.mpr ⟨h.ndPass, (nodup_reverse h.ndMapped).filter _, ?_⟩
    intro a ha b hb e
    exact h.disj a ha (e ▸ (mem_handover hb).1)
  · intro x hx hx'
    rcases List.mem_append.mp hx with hx | hx
    · exact h.disj x hx (List.mem_filter.mp hx').1
    · have := (List.mem_filter.mp hx').2
      rw [(mem_handover hx).2.1] at this
      cases this
  · intro x hx
    exact (List.mem_append.mp hx).elim (h.passInp x) fun hx => (mem_handover hx).2.2
  · intro k hk1
    exact Or.inr ((usedBy_iff _ _).mp (List.mem_filter.mp hk1).2)
  · -- a mapped key stays (still used), is handed over, or is released: exactly one of the three
    have hd := h.disj
    intro x
    simp only [mem_held, List.mem_append, List.mem_filter, List.mem_reverse, hoP, relP]; grind
  · intro k hk1; simp only [List.mem_filter, List.mem_reverse] at hk1; simp [hk1.1]

/-! ### dropFailing -/

/-- fields a release loop never touches -/
structure Frame (s s' : State) : Prop where
  inp : s'.inp = s.inp
  absorbed : s'.absorbed = s.absorbed
  absTrig : s'.absTrig = s.absTrig
  repTrig : s'.repTrig = s.repTrig


@[simp] theorem dropFailing_ctl (k : Key) (s : State) (rb after : List Mapping) :
    (dropFailing k s rb after).1.active = rb.reverse.filter (fun m => !failsWhenReleased m.frm k) ++ after ∧
    (dropFailing k s rb after).1.inp = s.inp ∧ (dropFailing k s rb after).1.absorbed = s.absorbed ∧
    (dropFailing k s rb after).1.absTrig = s.absTrig ∧ (dropFailing k s rb after).1.repTrig = s.repTrig := by
  induction rb generalizing s after with
  | nil => simp [dropFailing]
  | cons m rb ih =>
    simp only [dropFailing]
    split
    · rename_i hf
      simp [ih, removeMapping_eq, List.filter_append, hf]
    · rename_i hf
      simp [ih, List.filter_append, hf]

theorem dropFailing_spec (k : Key) {extra : List Key} (s : State) (rb after : List Mapping)
    (h : IInv extra s) (hact : s.active = rb.reverse ++ after) :
    RelOp extra s (dropFailing k s rb after).1 (dropFailing k s rb after).2 := by
  induction rb generalizing s after with
  | nil =>
    have hs : ({ s with active := after } : State) = s := by
      cases s; simp at hact; simp [hact]
    simp only [dropFailing, hs]
    exact RelOp.refl h
  | cons m rb ih =>
    have hact' : s.active = rb.reverse ++ m :: after := by simp [hact]
    simp only [dropFailing]
    split
    · have h1 := removeMapping_spec (m := m) k h hact'
      exact h1.seq (ih _ after (h1.1.mono (by simp)) (by simp [removeMapping_eq]))
    · exact ih s (m :: after) h hact'

/-! ### the tail of `newly_release` / of one round of `release_absorbed_keys` -/

theorem removeLast_nodup {l : List Key} (k : Key) (h : l.Nodup) : (removeLast k l).Nodup :=
  nodup_reverse ((nodup_reverse h).erase k)

theorem mem_removeLast {l : List Key} (k x : Key) (h : l.Nodup) :
    x ∈ removeLast k l ↔ x ∈ l ∧ x ≠ k := by
  simp only [removeLast, List.mem_reverse, (nodup_reverse h).mem_erase_iff]
  exact And.comm

@[simp] theorem releaseTail_ctl (s : State) (k : Key) :
    (releaseTail s k).1.inp = s.inp.filter (fun x => x != k) ∧ (releaseTail s k).1.active = s.active ∧
    (releaseTail s k).1.absorbed = s.absorbed ∧ (releaseTail s k).1.absTrig = s.absTrig ∧
    (releaseTail s k).1.repTrig = s.repTrig := by
  by_cases hc : k ∈ s.pass <;> simp [releaseTail, hc]

/-- `mapped` is left alone, `pass` only shrinks -/
theorem releaseTail_sub (s : State) (k : Key) :
    (releaseTail s k).1.mapped = s.mapped ∧ ∀ x, x ∈ (releaseTail s k).1.pass → x ∈ s.pass := by
  by_cases hc : k ∈ s.pass <;> simp [releaseTail, hc, removeLast]
  exact fun x hx => List.mem_reverse.mp (List.mem_of_mem_erase hx)

theorem releaseTail_spec {extra : List Key} {s : State} (k : Key) (h : IInv extra s)
    (hact : ∀ m, m ∈ s.active → k ∉ m.frm) : RelOp extra s (releaseTail s k).1 (releaseTail s k).2 := by
  have hin : ∀ x, x ∈ s.inp → x ≠ k → x ∈ s.inp.filter (fun x => x != k) :=
    fun x hx hne => List.mem_filter.mpr ⟨hx, by simpa using hne⟩
  have hsub : ∀ x, x ∈ s.inp.filter (fun x => x != k) → x ∈ s.inp := fun x hx => (List.mem_filter.mp hx).1
  have hact' : ∀ m, m ∈ s.active → ∀ x, x ∈ m.frm → x ∈ s.inp.filter (fun x => x != k) :=
    fun m hm x hx => hin x (h.actInp m hm x hx) fun e => hact m hm (e ▸ hx)
  unfold releaseTail
  by_cases hk : k ∈ s.pass
  · simp only [List.contains_eq_mem, hk, decide_true, if_true]
    have hrm := fun x => (mem_removeLast k x h.ndPass).mp
    refine ⟨⟨removeLast_nodup k h.ndPass, h.ndMapped, fun x hx => h.disj x (hrm x hx).1,
        fun x hx => hin x (h.passInp x (hrm x hx).1) (hrm x hx).2, hact', h.mappedAct⟩,
      IRelW.of_releases (ks := [k]) (by simp) ?_ (by simp [hk]) hsub fun _ hm => hm⟩
    intro x
    simp only [mem_held, mem_removeLast k x h.ndPass, List.mem_singleton]
    constructor
    · rintro (⟨h1, h2⟩ | h1)
      · exact ⟨Or.inl h1, h2⟩
      · exact ⟨Or.inr h1, fun e => h.disj k hk (e ▸ h1)⟩
    · rintro ⟨h1 | h1, h2⟩
      · exact Or.inl ⟨h1, h2⟩
      · exact Or.inr h1
  · simp only [List.contains_eq_mem, hk, decide_false]
    exact ⟨⟨h.ndPass, h.ndMapped, h.disj, fun x hx => hin x (h.passInp x hx) fun e => hk (e ▸ hx), hact',
      h.mappedAct⟩, IRelW.of_emits (Emits.refl _) (by simp) hsub fun _ hm => hm⟩

/-! ### releaseKey, releaseAbsorbedKeys -/

theorem releaseKey_eq (s : State) (k : Key) :
    releaseKey s k =
      ((releaseTail (dropFailing k s s.active.reverse []).1 k).1,
       (dropFailing k s s.active.reverse []).2 ++ (releaseTail (dropFailing k s s.active.reverse []).1 k).2) := rfl

@[simp] theorem releaseKey_ctl (s : State) (k : Key) :
    (releaseKey s k).1.inp = s.inp.filter (fun x => x != k) ∧
    (releaseKey s k).1.active = s.active.filter (fun m => !failsWhenReleased m.frm k) ∧
    (releaseKey s k).1.absorbed = s.absorbed ∧ (releaseKey s k).1.absTrig = s.absTrig ∧
    (releaseKey s k).1.repTrig = s.repTrig := by
  simp [releaseKey_eq]

theorem releaseKey_spec {extra : List Key} {s : State} (k : Key) (h : IInv extra s) :
    RelOp extra s (releaseKey s k).1 (releaseKey s k).2 := by
  have h1 := dropFailing_spec k s s.active.reverse [] h (by simp)
  exact h1.seq (releaseTail_spec k h1.1 (by simp [failsWhenReleased]))

theorem releaseAbsorbedLoop_cons (s : State) (k : Key) (ks : List Key) :
    releaseAbsorbedLoop s (k :: ks) =
      ((releaseAbsorbedLoop (releaseKey s k).1 ks).1,
       (releaseKey s k).2 ++ (releaseAbsorbedLoop (releaseKey s k).1 ks).2) := rfl

@[simp] theorem releaseAbsorbedLoop_ctl (s : State) (ks : List Key) :
    (releaseAbsorbedLoop s ks).1.inp = s.inp.filter (fun x => !ks.contains x) ∧
    (releaseAbsorbedLoop s ks).1.active = s.active.filter (fun m => !ks.any (failsWhenReleased m.frm)) ∧
    (releaseAbsorbedLoop s ks).1.absorbed = s.absorbed ∧ (releaseAbsorbedLoop s ks).1.absTrig = s.absTrig ∧
    (releaseAbsorbedLoop s ks).1.repTrig = s.repTrig := by
  induction ks generalizing s with
  | nil => refine ⟨?_, ?_, rfl, rfl, rfl⟩ <;> exact (List.filter_eq_self.mpr fun _ _ => rfl).symm
  | cons k ks ih =>
    simp only [releaseAbsorbedLoop_cons, ih, releaseKey_ctl, List.filter_filter, and_true]
    constructor <;> apply List.filter_congr <;> intro x _
    · by_cases h : x = k <;> simp [h]
    · simp [Bool.and_comm]

theorem releaseAbsorbedLoop_spec {extra : List Key} (s : State) (ks : List Key) (h : IInv extra s) :
    RelOp extra s (releaseAbsorbedLoop s ks).1 (releaseAbsorbedLoop s ks).2 := by
  induction ks generalizing s with
  | nil => exact RelOp.refl h
  | cons k ks ih => exact (releaseKey_spec k h).seq (ih _ (releaseKey_spec k h).1)

@[simp] theorem releaseAbsorbedKeys_ctl (s : State) :
    (releaseAbsorbedKeys s).1.inp = s.inp.filter (fun x => !s.absorbed.contains x) ∧
    (releaseAbsorbedKeys s).1.active = s.active.filter (fun m => !s.absorbed.any (failsWhenReleased m.frm)) ∧
    (releaseAbsorbedKeys s).1.absorbed = [] ∧ (releaseAbsorbedKeys s).1.absTrig = none ∧
    (releaseAbsorbedKeys s).1.repTrig = s.repTrig := by
  simp [releaseAbsorbedKeys]

theorem releaseAbsorbedKeys_spec {extra : List Key} (s : State) (h : IInv extra s) :
    RelOp extra s (releaseAbsorbedKeys s).1 (releaseAbsorbedKeys s).2 := by
  have h1 := releaseAbsorbedLoop_spec { s with absorbed := [], absTrig := none } s.absorbed
    (h.congr rfl rfl rfl rfl)
  exact ⟨h1.1, IRelW.of_emits h1.2.emits h1.2.allRel h1.2.inpSub h1.2.actSub⟩

/-! ### releaseAllActionKeys -/

@[simp] theorem releaseAllActionKeys_ctl (s : State) :
    (releaseAllActionKeys s).1.inp = s.inp ∧ (releaseAllActionKeys s).1.active = s.active ∧
    (releaseAllActionKeys s).1.absorbed = s.absorbed ∧ (releaseAllActionKeys s).1.absTrig = s.absTrig ∧
    (releaseAllActionKeys s).1.repTrig = s.repTrig := ⟨rfl, rfl, rfl, rfl, rfl⟩

@[simp] theorem mem_releaseAllActionKeys (s : State) (k : Key) :
    (k ∈ (releaseAllActionKeys s).1.pass ↔ k ∈ s.pass ∧ isActionKey k = false) ∧
    (k ∈ (releaseAllActionKeys s).1.mapped ↔ k ∈ s.mapped ∧ isActionKey k = false) := by
  simp [releaseAllActionKeys]

theorem releaseAllActionKeys_spec {extra : List Key} (s : State) (h : IInv extra s) :
    RelOp extra s (releaseAllActionKeys s).1 (releaseAllActionKeys s).2 := by
  have hd := h.disj
  refine ⟨⟨h.ndPass.filter _, h.ndMapped.filter _, ?_, ?_, h.actInp, ?_⟩,
    IRelW.of_releases ?_ ?_ ?_ (fun _ hm => hm) (fun _ hm => hm)⟩
  · intro k h1 h2; exact hd k (List.mem_filter.mp h1).1 (List.mem_filter.mp h2).1
  · intro k h1; exact h.passInp k (List.mem_filter.mp h1).1
  · intro k h1; exact h.mappedAct k (List.mem_filter.mp h1).1
  · refine List.nodup_append.mpr ⟨h.ndPass.filter _, h.ndMapped.filter _, ?_⟩
    simp only [List.mem_filter]; grind
  · intro x; simp only [mem_held, mem_releaseAllActionKeys, List.mem_append, List.mem_filter]; grind
  · intro k; simp only [mem_held, List.mem_append, List.mem_filter]; grind

/-! ### consume -/

theorem consume_eq (m : Mapping) (l : List Key) :
    consume m l =
      (l.filter (fun k => !(m.frm.contains k || m.to.contains k)),
       l.filter (fun k => m.to.contains k),
       (l.filter (fun k => m.frm.contains k && !m.to.contains k)).map Event.released) := by
  induction l with
  | nil => rfl
  | cons k ks ih =>
    simp only [consume, ih, List.filter_cons]
    cases h1 : m.frm.contains k <;> cases h2 : m.to.contains k <;> simp

/-- the state after the `retain` at the top of `add_new_mapping` -/
def afterConsume (s : State) (m : Mapping) : State :=
  { s with pass := (consume m s.pass).1, mapped := s.mapped ++ (consume m s.pass).2.1 }

theorem addPhase1_eq (s : State) (m : Mapping) :
    addPhase1 s m = (afterConsume s m, (consume m s.pass).2.2) := rfl

@[simp] theorem afterConsume_ctl (s : State) (m : Mapping) :
    (afterConsume s m).inp = s.inp ∧ (afterConsume s m).active = s.active ∧
    (afterConsume s m).absorbed = s.absorbed ∧ (afterConsume s m).absTrig = s.absTrig ∧
    (afterConsume s m).repTrig = s.repTrig := ⟨rfl, rfl, rfl, rfl, rfl⟩

/-- after a consumption no pass-through key is mentioned by `m`; the output keys among them are mapped now -/
@[simp] theorem mem_afterConsume (s : State) (m : Mapping) (k : Key) :
    (k ∈ (afterConsume s m).pass ↔ k ∈ s.pass ∧ k ∉ m.frm ∧ k ∉ m.to) ∧
    (k ∈ (afterConsume s m).mapped ↔ k ∈ s.mapped ∨ (k ∈ s.pass ∧ k ∈ m.to)) := by
  simp [afterConsume, consume_eq]

theorem consume_spec {extra : List Key} (s : State) (m : Mapping) (h : IInv extra s) :
    RelOp (extra ++ m.to) s (afterConsume s m) (consume m s.pass).2.2 := by
  have mp := fun x => (mem_afterConsume s m x).1.mp
  have mm := fun x => (mem_afterConsume s m x).2.mp
  refine ⟨⟨?_, ?_, ?_, fun x hx => h.passInp x (mp x hx).1, h.actInp, ?_⟩, ?_⟩
  · simp only [afterConsume, consume_eq]; exact h.ndPass.filter _
  · simp only [afterConsume, consume_eq]
    refine List.nodup_append.mpr ⟨h.ndMapped, h.ndPass.filter _, ?_⟩
    intro a ha b hb e
    exact h.disj b (List.mem_filter.mp hb).1 (e ▸ ha)
  · intro x hx hx'
    rcases mm x hx' with h1 | h1
    · exact h.disj x (mp x hx).1 h1
    · exact (mp x hx).2.2 h1.2
  · intro x hx
    rcases mm x hx with h1 | h1
    · exact (h.mappedAct x h1).imp_left (List.mem_append_left _)
    · exact Or.inl (List.mem_append_right _ h1.2)
  · simp only [consume_eq]
    refine IRelW.of_releases (h.ndPass.filter _) ?_ ?_ (fun _ hx => hx) (fun _ hx => hx)
    · -- a pass-through key stays, becomes mapped (in `m.to`) or is released (in `m.frm` only)
      have hd := h.disj
      intro x; simp only [mem_held, mem_afterConsume, List.mem_filter]; grind
    · intro k hk; simp [(List.mem_filter.mp hk).1]

/-- consuming is a no-op when no pass-through key is mentioned by `m` -/
theorem afterConsume_noop (s : State) (m : Mapping) (h : ∀ k, k ∈ s.pass → k ∉ m.frm ∧ k ∉ m.to) :
    afterConsume s m = s ∧ (consume m s.pass).2.2 = [] := by
  have h1 : s.pass.filter (fun k => !(m.frm.contains k || m.to.contains k)) = s.pass := by
    rw [List.filter_eq_self]; intro k hk; have := h k hk; simp [this.1, this.2]
  have h2 : s.pass.filter (fun k => m.to.contains k) = [] := by
    rw [List.filter_eq_nil_iff]; intro k hk; have := h k hk; simp [this.2]
  have h3 : s.pass.filter (fun k => m.frm.contains k && !m.to.contains k) = [] := by
    rw [List.filter_eq_nil_iff]; intro k hk; have := h k hk; simp [this.1]
  simp only [afterConsume, consume_eq, h1, h2, h3, List.append_nil, List.map_nil, and_true]

end TmVerif
