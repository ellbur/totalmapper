/-
Simulation between the loop model (`Model/Loop.lean`, run by `Driver/LoopCmd.runAnnotated`) and the
specification automaton over the visible transcript (`LoopMonitors.lean`).

`SimR L x lastT S pb` relates a live machine state `x` (with `lastT` = stamp of the last consumed
answer) to the automaton state `S` and its `pendingBase` flag `pb`.  It is preserved by the hidden
transitions (`Instant::now()`, `thread::sleep`: the automaton does not move) and by every visible
transition (the automaton digests one transcript entry and raises no tag).
-/
import TmVerif.Props.C11
import TmVerif.LoopMonitors
import TmVerif.Driver.LoopCmd

namespace TmVerif
open TmVerif.LoopCmd (runAnnotated)

/-! ### the visible transcript of a model run -/

/-- the visible form of a call (`now` never occurs among the calls `runAnnotated` returns) -/
def Call.toV : Call → VCall
  | Call.registerPoll => VCall.reg
  | Call.poll t => VCall.poll t
  | Call.nextKeyboard => VCall.nk
  | Call.nextTablet => VCall.nt
  | Call.send _ evs => VCall.send evs
  | Call.sleep ms => VCall.sleep ms
  | Call.now => VCall.sleep 0

/-- the visible transcript of a model run: each visible call zipped with the script entry that answered it -/
def transcriptOf : List Call → List (Resp × Nat) → List Entry
  | c :: cs, (r, t) :: rs => ⟨c.toV, r, t⟩ :: transcriptOf cs rs
  | _, _ => []

/-! ### one step of the automaton -/

/-- `specRun`: add the base to a relative deadline once the step's send has returned -/
def adjustBase (pendingBase : Bool) (c : VCall) (r : Resp) (ts : Nat) (x2 : Spec) : Spec :=
  match pendingBase, c, r, x2.armed with
  | true, VCall.send _, Resp.unit, some a => { x2 with armed := some { a with deadline := a.deadline + ts } }
  | _, _, _, _ => x2

/-- `specRun`: the next `pendingBase` flag -/
def nextPendingOf (L : Layout) (x : Spec) (c : VCall) (r : Resp) : Bool :=
  match c, r with
  | VCall.nk, Resp.kbd (Next.one ev) =>
    if x.inTablet then false
    else
      let out := step L x.s ev
      (match out.2.rep with
       | RRepeat.repeating _ _ _ => !out.2.events.isEmpty
       | _ => false)
  | _, _ => false

/-- one iteration of `specRun` -/
def specStep (L : Layout) (tol : Nat) (x : Spec) (pendingBase : Bool) (e : Entry) : Spec × Bool :=
  (adjustBase pendingBase e.call e.resp e.ts (applyResp L (checkCall tol x e.call) e.call e.resp e.ts),
   nextPendingOf L x e.call e.resp)

theorem specRun_cons (L : Layout) (tol : Nat) (x : Spec) (pb : Bool) (e : Entry) (es : List Entry) :
    specRun L tol x pb (e :: es) = specRun L tol (specStep L tol x pb e).1 (specStep L tol x pb e).2 es := rfl

theorem specRun_nil (L : Layout) (tol : Nat) (x : Spec) (pb : Bool) : specRun L tol x pb [] = x := by
  unfold specRun; rfl

/-- the next call may be anything but a send, and there may be a next call -/
def Expect.free : Expect → Prop
  | Expect.any => True
  | Expect.noSend _ => True
  | _ => False

theorem timeoutOk_self (tol a : Nat) : timeoutOk tol a a = true := by
  simp [timeoutOk, absDiffN]

/-! #### `checkCall` raises nothing when … -/

theorem checkCall_reg (tol : Nat) (S : Spec) (h : S.expect.free) : checkCall tol S VCall.reg = S := by
  unfold checkCall
  cases hS : S.expect <;> simp_all [Expect.free]

theorem checkCall_nk (tol : Nat) (S : Spec) (h : S.expect.free) : checkCall tol S VCall.nk = S := by
  unfold checkCall
  cases hS : S.expect <;> simp_all [Expect.free]

theorem checkCall_nt (tol : Nat) (S : Spec) (h : S.expect.free) : checkCall tol S VCall.nt = S := by
  unfold checkCall
  cases hS : S.expect <;> simp_all [Expect.free]

/-- the timeout the automaton accepts with any tolerance -/
def specTimeout (S : Spec) : Option Nat :=
  match S.armed with
  | none => none
  | some a => some (dueTimeout a.deadline S.lastTs)

theorem checkCall_poll (tol : Nat) (S : Spec) (t : Option Nat) (h : S.expect.free) (hn : S.notified = [])
    (ht : t = specTimeout S) : checkCall tol S (VCall.poll t) = S := by
  subst ht
  unfold checkCall specTimeout
  cases hS : S.expect <;> cases ha : S.armed <;> simp_all [Expect.free, timeoutOk_self]

theorem checkCall_send (tol : Nat) (S : Spec) (prop : String) (evs : List Event)
    (h : S.expect = Expect.sendExactly prop evs) (hl : prop = "C11" ∨ legal S.V evs = true) :
    checkCall tol S (VCall.send evs) = { S with V := foldEvs S.V evs } := by
  unfold checkCall
  rcases hl with hl | hl
  · simp [h, hl]
  · simp [h, hl]

/-! #### `applyResp`, answer by answer

Where the arm depends on a field of `S`: take `S` apart, substitute, and both sides compute to the same term
(unfolding `applyResp` by `simp` is much slower to check). -/

section app
variable (L : Layout) (S : Spec) (ts : Nat)

theorem applyResp_err (c : VCall) (msg : String) :
    applyResp L S c (Resp.err msg) ts = { S with lastTs := ts, expect := Expect.nothing "C20" } := rfl

theorem applyResp_reg : applyResp L S VCall.reg Resp.unit ts = { S with lastTs := ts, expect := Expect.noSend "C10" } := rfl

theorem applyResp_send (evs : List Event) :
    applyResp L S (VCall.send evs) Resp.unit ts = { S with lastTs := ts, expect := Expect.noSend "C10" } := rfl

theorem applyResp_interrupted (t : Option Nat) :
    applyResp L S (VCall.poll t) (Resp.poll PollRes.interrupted) ts =
      { S with lastTs := ts, expect := Expect.noSend "C10" } := rfl

theorem applyResp_deviceEvent (t : Option Nat) (devs : List Dev) :
    applyResp L S (VCall.poll t) (Resp.poll (PollRes.deviceEvent devs)) ts =
      { S with lastTs := ts, notified := devs, expect := Expect.noSend "C10" } := rfl

theorem applyResp_nk_busy :
    applyResp L S VCall.nk (Resp.kbd Next.busy) ts =
      { S with lastTs := ts, notified := S.notified.filter (· != Dev.keyboard), expect := Expect.noSend "C10" } := rfl

theorem applyResp_nk_end :
    applyResp L S VCall.nk (Resp.kbd Next.end_) ts = { S with lastTs := ts, expect := Expect.nothing "C10" } := rfl

theorem applyResp_nt_busy :
    applyResp L S VCall.nt (Resp.tab Next.busy) ts =
      { S with lastTs := ts, notified := S.notified.filter (· != Dev.tablet), expect := Expect.noSend "C10" } := rfl

theorem applyResp_nt_end :
    applyResp L S VCall.nt (Resp.tab Next.end_) ts = { S with lastTs := ts, expect := Expect.nothing "C10" } := rfl

theorem applyResp_nt_one (tev : TabletEv) :
    applyResp L S VCall.nt (Resp.tab (Next.one tev)) ts =
      { S with lastTs := ts, s := (releaseAll L S.s).1, armed := none, tabletCleared := true,
               inTablet := (match tev with | TabletEv.on => true | TabletEv.off => false),
               expect := if (releaseAll L S.s).2.isEmpty then Expect.noSend "C12"
                         else Expect.sendExactly "C12" (releaseAll L S.s).2 } := by
  show (if (releaseAll L S.s).2.isEmpty then _ else _) = _
  split <;> rfl

theorem applyResp_nk_one_tablet (ev : Event) (ht : S.inTablet = true) :
    applyResp L S VCall.nk (Resp.kbd (Next.one ev)) ts = { S with lastTs := ts, expect := Expect.noSend "C12" } := by
  cases S; cases ht; rfl

theorem applyResp_timedOut_idle (t : Option Nat) (ha : S.armed = none) :
    applyResp L S (VCall.poll t) (Resp.poll PollRes.timedOut) ts =
      { S with lastTs := ts, expect := Expect.noSend "C11" } := by
  cases S; cases ha; rfl

theorem applyResp_timedOut_tablet (t : Option Nat) (a : Armed) (ha : S.armed = some a) (ht : S.inTablet = true) :
    applyResp L S (VCall.poll t) (Resp.poll PollRes.timedOut) ts =
      { S with lastTs := ts, armed := none, expect := Expect.noSend "C12" } := by
  cases S; cases ha; cases ht; rfl

theorem applyResp_timedOut_empty (t : Option Nat) (a : Armed) (ha : S.armed = some a) (ht : S.inTablet = false)
    (hc : (chordOf S.s a.keys).isEmpty = true) :
    applyResp L S (VCall.poll t) (Resp.poll PollRes.timedOut) ts =
      { S with lastTs := ts, armed := some { a with deadline := a.deadline + msToNs (asU64 a.interval) },
               expect := Expect.noSend "C11" } := by
  cases S; cases ha; cases ht
  simp only [applyResp, hc]; rfl

theorem applyResp_timedOut_chord (t : Option Nat) (a : Armed) (ha : S.armed = some a) (ht : S.inTablet = false)
    (hc : (chordOf S.s a.keys).isEmpty = false)
    (htr : ∀ k, k ∈ foldEvs S.V (chordOf S.s a.keys) ↔ k ∈ S.V) :
    applyResp L S (VCall.poll t) (Resp.poll PollRes.timedOut) ts =
      { S with lastTs := ts, armed := some { a with deadline := a.deadline + msToNs (asU64 a.interval) },
               expect := Expect.sendExactly "C11" (chordOf S.s a.keys) } := by
  have h1 : (foldEvs S.V (chordOf S.s a.keys)).all (fun k => S.V.contains k) = true := by
    simp only [List.all_eq_true, List.contains_iff_mem]
    intro k hk; exact (htr k).mp hk
  have h2 : S.V.all (fun k => (foldEvs S.V (chordOf S.s a.keys)).contains k) = true := by
    simp only [List.all_eq_true, List.contains_iff_mem]
    intro k hk; exact (htr k).mpr hk
  simp only [applyResp, ha, ht, hc, h1, h2, Bool.and_self, if_true, Bool.false_eq_true, if_false]

/-- the automaton's timer after a key event that the mapper answered with `rr` (`emp`: no output) -/
def armedAfter (old : Option Armed) (rr : RRepeat) (emp : Bool) (ts : Nat) : Option Armed :=
  match rr with
  | RRepeat.repeating keys d i =>
    if emp then some ⟨keys, i, ts + msToNs (asU64 d)⟩ else some ⟨keys, i, msToNs (asU64 d)⟩
  | RRepeat.disabled => none
  | RRepeat.noChange => old

theorem applyResp_nk_one (ev : Event) (ht : S.inTablet = false) :
    applyResp L S VCall.nk (Resp.kbd (Next.one ev)) ts =
      { S with lastTs := ts, s := (step L S.s ev).1,
               tabletCleared := (match (step L S.s ev).2.rep with
                 | RRepeat.noChange => S.tabletCleared
                 | _ => false),
               armed := armedAfter S.armed (step L S.s ev).2.rep (step L S.s ev).2.events.isEmpty ts,
               expect := if (step L S.s ev).2.events.isEmpty then Expect.noSend "C10"
                         else Expect.sendExactly "C10" (step L S.s ev).2.events } := by
  -- take the step's result apart BEFORE unfolding `applyResp`: its nested record updates make a goal
  -- that `cases` and `generalize` are slow on
  rcases h : step L S.s ev with ⟨s', evs, rr⟩
  cases rr <;> cases evs <;> simp only [applyResp, ht, h, armedAfter] <;> rfl

end app

/-! #### the two tails of `specStep` -/

theorem adjustBase_false (c : VCall) (r : Resp) (ts : Nat) (x2 : Spec) : adjustBase false c r ts x2 = x2 := by
  simp [adjustBase]

theorem adjustBase_not_unit (pb : Bool) (c : VCall) (r : Resp) (ts : Nat) (x2 : Spec)
    (hc : r ≠ Resp.unit) : adjustBase pb c r ts x2 = x2 := by
  cases r <;> first | (exact absurd rfl hc) | (cases pb <;> cases c <;> simp [adjustBase])

theorem adjustBase_true (evs : List Event) (ts : Nat) (x2 : Spec) (a : Armed) (ha : x2.armed = some a) :
    adjustBase true (VCall.send evs) Resp.unit ts x2 =
      { x2 with armed := some { a with deadline := a.deadline + ts } } := by
  simp [adjustBase, ha]

theorem adjustBase_true_eq (evs : List Event) (ts : Nat) (x2 : Spec) :
    adjustBase true (VCall.send evs) Resp.unit ts x2 =
      match x2.armed with
      | some a => { x2 with armed := some { a with deadline := a.deadline + ts } }
      | none => x2 := by
  cases ha : x2.armed <;> simp [adjustBase, ha]

theorem adjustBase_none (pb : Bool) (c : VCall) (r : Resp) (ts : Nat) (x2 : Spec) (ha : x2.armed = none) :
    adjustBase pb c r ts x2 = x2 := by
  unfold adjustBase
  split
  · simp_all
  · rfl

theorem nextPendingOf_tablet (L : Layout) (x : Spec) (c : VCall) (r : Resp) (ht : x.inTablet = true) :
    nextPendingOf L x c r = false := by
  unfold nextPendingOf
  split
  · simp [ht]
  · rfl

theorem nextPendingOf_one (L : Layout) (x : Spec) (ev : Event) (ht : x.inTablet = false) :
    nextPendingOf L x VCall.nk (Resp.kbd (Next.one ev)) =
      (match (step L x.s ev).2.rep with
       | RRepeat.repeating _ _ _ => !(step L x.s ev).2.events.isEmpty
       | _ => false) := by
  simp [nextPendingOf, ht]

/-! ### the simulation relation -/

/-- the devices the machine still has to drain (the one being read first) -/
def Ctl.devs : Ctl → List Dev
  | Ctl.readKbd rest => Dev.keyboard :: rest
  | Ctl.sendStep rest _ _ => Dev.keyboard :: rest
  | Ctl.stepNow rest _ _ _ => Dev.keyboard :: rest
  | Ctl.readTab rest => Dev.tablet :: rest
  | Ctl.sendRel rest _ => Dev.tablet :: rest
  | _ => []

def repArmed : WorkingRepeat → Option Armed
  | WorkingRepeat.idle => none
  | WorkingRepeat.repeating keys nw iv => some ⟨keys, iv, nw⟩

/-- the automaton's timer as a function of the machine state -/
def armedOf (x : Machine) (lastT : Nat) : Option Armed :=
  match x.c with
  | Ctl.sendStep _ _ rr => armedAfter (repArmed x.v.rep) rr false lastT
  | Ctl.stepNow _ keys d i => some ⟨keys, i, lastT + msToNs (asU64 d)⟩
  | _ => repArmed x.v.rep

/-- the automaton's `pendingBase` flag as a function of the control state -/
def Ctl.pbase : Ctl → Bool
  | Ctl.sendStep _ _ (RRepeat.repeating _ _ _) => true
  | _ => false

/-- property tag and payload of the send the machine is blocked on -/
def Ctl.payload : Ctl → Option (String × List Event)
  | Ctl.sendStep _ evs _ => some ("C10", evs)
  | Ctl.sendRel _ evs => some ("C12", evs)
  | Ctl.sendChord evs => some ("C11", evs)
  | _ => none

/-- what the relation knows about a pending send: the step / release-all batches are legal against
the fold (the automaton demands it), a timer chord need not be; in every case the fold after the send
has exactly the members of `V'` -/
def SendOk (S : Spec) (prop : String) (evs : List Event) (V' : List Key) : Prop :=
  (prop = "C11" ∨ legal S.V evs = true) ∧ ∀ k, k ∈ foldEvs S.V evs ↔ k ∈ V'

theorem Emits.sendOk {S : Spec} {evs : List Event} {V' : List Key} (prop : String) (h : Emits S.V evs V') :
    SendOk S prop evs V' := ⟨Or.inr h.1, h.2⟩

/-- the timeout of the top of the loop -/
def pollT : WorkingRepeat → Nat → Option Nat
  | WorkingRepeat.idle, _ => none
  | WorkingRepeat.repeating _ nw _, now => some (dueTimeout nw now)

def ctlTimer (x : Machine) (lastT : Nat) : Prop :=
  match x.c with
  | Ctl.pollNow => x.v.rep ≠ WorkingRepeat.idle
  | Ctl.polling t => t = pollT x.v.rep lastT
  | _ => True

def Ctl.isDone : Ctl → Bool
  | Ctl.done _ => true
  | _ => false

/-- the simulation relation for a machine that has not returned -/
structure SimR (L : Layout) (x : Machine) (lastT : Nat) (S : Spec) (pb : Bool) : Prop where
  viol : S.viol = []
  s : S.s = x.v.m
  tab : S.inTablet = x.v.inTablet
  ts : S.lastTs = lastT
  inv : ∃ P, Inv L P x.v.m
  notified : ∀ d, d ∈ S.notified → d ∈ x.c.devs
  armed : S.armed = armedOf x lastT
  pb : pb = x.c.pbase
  vv : match x.c.payload with
       | some (prop, evs) => SendOk S prop evs (held x.v.m) ∧ S.expect = Expect.sendExactly prop evs
       | none => (∀ k, k ∈ S.V ↔ k ∈ held x.v.m) ∧ S.expect.free
  timer : ctlTimer x lastT

/-- the relation along a run: nothing flagged so far, and `SimR` unless the machine has returned -/
def Sim (L : Layout) (x : Machine) (lastT : Nat) (S : Spec) (pb : Bool) : Prop :=
  S.viol = [] ∧ (x.c.isDone = false → SimR L x lastT S pb)

theorem SimR.init {L : Layout} {x : Machine} (h : Machine.init L = some x) : SimR L x 0 Spec.init false := by
  cases Machine.init_eq h
  exact ⟨rfl, rfl, rfl, rfl, ⟨[], Inv.init L⟩, by simp [Spec.init], rfl, rfl,
    ⟨by simp [Spec.init, State.init, held], trivial⟩, trivial⟩

/-- arriving at the top of the loop -/
theorem SimR.mkTop {L : Layout} {v : LoopVars} {lastT : Nat} {S : Spec}
    (viol : S.viol = []) (s : S.s = v.m) (tab : S.inTablet = v.inTablet) (ts : S.lastTs = lastT)
    (inv : ∃ P, Inv L P v.m) (notified : S.notified = []) (armed : S.armed = repArmed v.rep)
    (hV : ∀ k, k ∈ S.V ↔ k ∈ held v.m) (hE : S.expect.free) :
    SimR L (toPollTop v) lastT S false := by
  unfold toPollTop
  cases hrep : v.rep with
  | idle =>
    exact ⟨viol, s, tab, ts, inv, by simp [notified], by simpa [armedOf, hrep] using armed, rfl,
      ⟨hV, hE⟩, by simp [ctlTimer, hrep, pollT]⟩
  | repeating keys nw iv =>
    exact ⟨viol, s, tab, ts, inv, by simp [notified], by simpa [armedOf, hrep] using armed, rfl,
      ⟨hV, hE⟩, by simp [ctlTimer, hrep]⟩

/-- continuing the `for dev_ev in dev_evs` loop -/
theorem SimR.mkDrain {L : Layout} {v : LoopVars} {lastT : Nat} {S : Spec} (devs : List Dev)
    (viol : S.viol = []) (s : S.s = v.m) (tab : S.inTablet = v.inTablet) (ts : S.lastTs = lastT)
    (inv : ∃ P, Inv L P v.m) (notified : ∀ d, d ∈ S.notified → d ∈ devs) (armed : S.armed = repArmed v.rep)
    (hV : ∀ k, k ∈ S.V ↔ k ∈ held v.m) (hE : S.expect.free) :
    SimR L (drain v devs) lastT S false := by
  cases devs with
  | nil =>
    refine SimR.mkTop viol s tab ts inv ?_ armed hV hE
    apply List.eq_nil_iff_forall_not_mem.mpr
    intro d hd; have := notified d hd; simp at this
  | cons d rest =>
    cases d with
    | keyboard => exact ⟨viol, s, tab, ts, inv, notified, armed, rfl, ⟨hV, hE⟩, trivial⟩
    | tablet => exact ⟨viol, s, tab, ts, inv, notified, armed, rfl, ⟨hV, hE⟩, trivial⟩

/-! ### hidden transitions: the automaton does not move -/

/-- `Instant::now()` answered with the stamp of the previous answer: the arm taken, and the relation -/
theorem SimR.now {L : Layout} {x : Machine} {lastT : Nat} {S : Spec} {pb : Bool} (h : SimR L x lastT S pb)
    (hp : pending x = some Call.now) :
    Adv L x (Resp.time lastT) (advance L x (Resp.time lastT)) ∧ SimR L (advance L x (Resp.time lastT)) lastT S pb := by
  obtain ⟨v, c⟩ := x
  cases c <;> simp [pending] at hp
  · -- pollNow
    have ht := h.timer
    simp only [ctlTimer] at ht
    cases hrep : v.rep with
    | idle => exact absurd hrep ht
    | repeating keys nw iv =>
      rw [adv_pollNow L v hrep]
      exact ⟨.pollNow v keys nw iv lastT hrep, h.viol, h.s, h.tab, h.ts, h.inv, h.notified, h.armed, h.pb, h.vv,
        by simp [ctlTimer, hrep, pollT, dueTimeout]⟩
  · -- stepNow
    exact ⟨.stepNow .., h.viol, h.s, h.tab, h.ts, h.inv, h.notified, h.armed, h.pb, h.vv, trivial⟩

/-- `thread::sleep` -/
theorem SimR.sleep {L : Layout} {x : Machine} {lastT : Nat} {S : Spec} {pb : Bool} (h : SimR L x lastT S pb)
    (ms : Nat) (hp : pending x = some (Call.sleep ms)) :
    Adv L x Resp.unit (advance L x Resp.unit) ∧ SimR L (advance L x Resp.unit) lastT S pb := by
  obtain ⟨v, c⟩ := x
  cases c <;> simp [pending] at hp
  have hpb := h.pb
  simp only [Ctl.pbase] at hpb
  subst hpb
  have hn : S.notified = [] := by
    apply List.eq_nil_iff_forall_not_mem.mpr
    intro d hd; have := h.notified d hd; simp [Ctl.devs] at this
  exact ⟨.sleeping v _, SimR.mkTop h.viol h.s h.tab h.ts h.inv hn h.armed h.vv.1 h.vv.2⟩

/-! ### visible transitions: the automaton digests one entry and raises nothing -/

/-- the machine is blocked on a visible call -/
def Call.isVisible : Call → Bool
  | Call.now => false
  | Call.sleep _ => false
  | _ => true

/-- what `checkCall` leaves of the automaton state: only the fold `V` moves (at a send) -/
def Spec.afterCall (S : Spec) : Call → Spec
  | Call.send _ evs => { S with V := foldEvs S.V evs }
  | _ => S

theorem SimR.notified_nil {L : Layout} {x : Machine} {lastT : Nat} {S : Spec} {pb : Bool} (h : SimR L x lastT S pb)
    (hd : x.c.devs = []) : S.notified = [] := by
  apply List.eq_nil_iff_forall_not_mem.mpr
  intro d hd'; have := h.notified d hd'; rw [hd] at this; simp at this

/-- the call the machine makes is accepted by the automaton -/
theorem SimR.checkCall {L : Layout} {x : Machine} {lastT : Nat} {S : Spec} {pb : Bool} (h : SimR L x lastT S pb)
    (tol : Nat) (c : Call) (hp : pending x = some c) (hv : c.isVisible = true) :
    TmVerif.checkCall tol S c.toV = S.afterCall c := by
  obtain ⟨v, ct⟩ := x
  have hvv := h.vv
  cases ct <;> simp only [pending, Option.some.injEq, reduceCtorEq] at hp <;> subst hp <;>
    simp only [Call.isVisible, Bool.false_eq_true] at hv <;> simp only [Ctl.payload] at hvv <;>
    simp only [Call.toV, Spec.afterCall]
  · exact checkCall_reg tol S hvv.2
  · rename_i t
    refine checkCall_poll tol S t hvv.2 (h.notified_nil rfl) ?_
    have ht := h.timer
    have ha := h.armed
    simp only [ctlTimer] at ht
    simp only [armedOf] at ha
    rw [ht]
    unfold specTimeout
    rw [ha, h.ts]
    cases v.rep <;> rfl
  · exact checkCall_send tol S _ _ hvv.2 hvv.1.1
  · exact checkCall_nk tol S hvv.2
  · exact checkCall_send tol S _ _ hvv.2 hvv.1.1
  · exact checkCall_nt tol S hvv.2
  · exact checkCall_send tol S _ _ hvv.2 hvv.1.1

theorem Spec.afterCall_viol (S : Spec) (c : Call) : (S.afterCall c).viol = S.viol := by
  cases c <;> rfl

theorem SimR.notified_drain {L : Layout} {x : Machine} {lastT : Nat} {S : Spec} {pb : Bool} (h : SimR L x lastT S pb)
    {d : Dev} {rest : List Dev} (hd : x.c.devs = d :: rest) :
    ∀ d', d' ∈ S.notified.filter (· != d) → d' ∈ rest := by
  intro d' hd'
  simp only [List.mem_filter, bne_iff_ne, ne_eq] at hd'
  have := h.notified d' hd'.1
  rw [hd, List.mem_cons] at this
  exact this.resolve_left hd'.2

/-- every visible arm: the automaton digests the entry, raises nothing, and the relation holds again -/
theorem SimR.adv {L : Layout} {x y : Machine} {r : Resp} {lastT : Nat} {S : Spec} {pb : Bool}
    (h : SimR L x lastT S pb) (ha : Adv L x r y) (tol : Nat) {c : Call} (hp : pending x = some c)
    (hv : c.isVisible = true) (t : Nat) :
    Sim L y t (specStep L tol S pb ⟨c.toV, r, t⟩).1 (specStep L tol S pb ⟨c.toV, r, t⟩).2 := by
  have hvv := h.vv
  have har := h.armed
  have hpb := h.pb
  simp only [specStep, h.checkCall tol c hp hv]
  cases ha with
  | err v c0 msg hc0 =>
    rw [adjustBase_not_unit _ _ _ _ _ (by simp), applyResp_err]
    exact ⟨(Spec.afterCall_viol S c).trans h.viol, fun hd => by simp [Ctl.isDone] at hd⟩
  | pollNow | stepNow | sleeping => cases hp; cases hv
  | start v =>
    cases hp; cases hpb
    simp only [Call.toV, Spec.afterCall, Ctl.pbase, adjustBase_false, nextPendingOf, applyResp_reg]
    exact ⟨h.viol, fun _ => SimR.mkTop h.viol h.s h.tab rfl h.inv (h.notified_nil rfl) h.armed hvv.1 trivial⟩
  | sendChord v evs =>
    cases hp; cases hpb
    simp only [Call.toV, Spec.afterCall, Ctl.pbase, adjustBase_false, nextPendingOf, applyResp_send]
    exact ⟨h.viol, fun _ => SimR.mkTop h.viol h.s h.tab rfl h.inv (h.notified_nil rfl) h.armed hvv.1.2 trivial⟩
  | sendRel v rest evs =>
    cases hp; cases hpb
    simp only [Call.toV, Spec.afterCall, Ctl.pbase, adjustBase_false, nextPendingOf, applyResp_send]
    exact ⟨h.viol, fun _ => ⟨h.viol, h.s, h.tab, rfl, h.inv, h.notified, h.armed, rfl, ⟨hvv.1.2, trivial⟩, trivial⟩⟩
  | sendStep v rest evs rr =>
    cases hp
    simp only [Call.toV, Spec.afterCall, nextPendingOf, applyResp_send]
    cases rr with
    | repeating keys d i =>
      -- the relative deadline of the step gets its base: the stamp of the send's answer
      cases hpb
      simp only [Ctl.pbase, adjustBase_true_eq]
      simp only [armedOf, armedAfter, Bool.false_eq_true, if_false] at har
      simp only [har]
      refine ⟨h.viol, fun _ => ⟨h.viol, h.s, h.tab, rfl, h.inv, h.notified, ?_, rfl, ⟨hvv.1.2, trivial⟩, trivial⟩⟩
      simp only [afterStep, armedOf, Nat.add_comm]
    | disabled | noChange =>
      cases hpb
      simp only [Ctl.pbase, adjustBase_false]
      exact ⟨h.viol, fun _ => ⟨h.viol, h.s, h.tab, rfl, h.inv, h.notified, har, rfl, ⟨hvv.1.2, trivial⟩, trivial⟩⟩
  | interruptedSleep v tm hrc =>
    cases hp; cases hpb
    simp only [Call.toV, Spec.afterCall, Ctl.pbase, adjustBase_false, nextPendingOf, applyResp_interrupted]
    exact ⟨h.viol, fun _ => ⟨h.viol, h.s, h.tab, rfl, h.inv, h.notified, h.armed, rfl, ⟨hvv.1, trivial⟩, trivial⟩⟩
  | interruptedTop v tm hrc =>
    cases hp; cases hpb
    simp only [Call.toV, Spec.afterCall, Ctl.pbase, adjustBase_false, nextPendingOf, applyResp_interrupted]
    exact ⟨h.viol, fun _ => SimR.mkTop h.viol h.s h.tab rfl h.inv (h.notified_nil rfl) h.armed hvv.1 trivial⟩
  | deviceEvent v tm devs =>
    cases hp; cases hpb
    simp only [Call.toV, Spec.afterCall, Ctl.pbase, adjustBase_false, nextPendingOf, applyResp_deviceEvent]
    exact ⟨h.viol, fun _ => SimR.mkDrain devs h.viol h.s h.tab rfl h.inv (fun _ hd => hd) h.armed hvv.1 trivial⟩
  | timedOutIdle v tm hrep =>
    cases hp; cases hpb
    have ha0 : S.armed = none := by rw [har]; simp [armedOf, hrep, repArmed]
    simp only [Call.toV, Spec.afterCall, Ctl.pbase, adjustBase_false, nextPendingOf, applyResp_timedOut_idle L S t tm ha0]
    exact ⟨h.viol, fun _ => SimR.mkTop h.viol h.s h.tab rfl h.inv (h.notified_nil rfl) (by rw [hrep]; exact ha0) hvv.1 trivial⟩
  | timedOutTablet v tm keys nw iv hrep hit =>
    cases hp; cases hpb
    have ha0 : S.armed = some ⟨keys, iv, nw⟩ := by rw [har]; simp [armedOf, hrep, repArmed]
    simp only [Call.toV, Spec.afterCall, Ctl.pbase, adjustBase_false, nextPendingOf,
      applyResp_timedOut_tablet L S t tm _ ha0 (h.tab.trans hit)]
    exact ⟨h.viol, fun _ => SimR.mkTop h.viol h.s h.tab rfl h.inv (h.notified_nil rfl) rfl hvv.1 trivial⟩
  | timedOutQuiet v tm keys nw iv hrep hit hemp =>
    cases hp; cases hpb
    have ha0 : S.armed = some ⟨keys, iv, nw⟩ := by rw [har]; simp [armedOf, hrep, repArmed]
    simp only [Call.toV, Spec.afterCall, Ctl.pbase, adjustBase_false, nextPendingOf,
      applyResp_timedOut_empty L S t tm _ ha0 (h.tab.trans hit) (by rw [h.s]; exact hemp)]
    exact ⟨h.viol, fun _ => SimR.mkTop h.viol h.s h.tab rfl h.inv (h.notified_nil rfl) rfl hvv.1 trivial⟩
  | timedOutChord v tm keys nw iv hrep hit hemp =>
    cases hp; cases hpb
    have ha0 : S.armed = some ⟨keys, iv, nw⟩ := by rw [har]; simp [armedOf, hrep, repArmed]
    -- transience of the chord (no `Nodup` needed): the fold keeps exactly the members of `held m`
    have htr : ∀ k, k ∈ foldEvs S.V (chordOf v.m keys) ↔ k ∈ held v.m := fun k =>
      (mem_foldEvs_congr hvv.1 (chordOf v.m keys) k).trans (C11_transient v.m keys k)
    simp only [Call.toV, Spec.afterCall, Ctl.pbase, adjustBase_false, nextPendingOf,
      applyResp_timedOut_chord L S t tm _ ha0 (h.tab.trans hit) (by rw [h.s]; exact hemp)
        (by rw [h.s]; intro k; exact (htr k).trans (hvv.1 k).symm)]
    exact ⟨h.viol, fun _ => ⟨h.viol, h.s, h.tab, rfl, h.inv, h.notified, rfl, rfl,
      ⟨⟨Or.inl rfl, htr⟩, by simp only [h.s]⟩, trivial⟩⟩
  | kbdBusy v rest =>
    cases hp; cases hpb
    simp only [Call.toV, Spec.afterCall, Ctl.pbase, adjustBase_false, nextPendingOf, applyResp_nk_busy]
    exact ⟨h.viol, fun _ => SimR.mkDrain rest h.viol h.s h.tab rfl h.inv (h.notified_drain rfl) h.armed hvv.1 trivial⟩
  | tabBusy v rest =>
    cases hp; cases hpb
    simp only [Call.toV, Spec.afterCall, Ctl.pbase, adjustBase_false, nextPendingOf, applyResp_nt_busy]
    exact ⟨h.viol, fun _ => SimR.mkDrain rest h.viol h.s h.tab rfl h.inv (h.notified_drain rfl) h.armed hvv.1 trivial⟩
  | kbdEnd v rest =>
    cases hp; cases hpb
    simp only [Call.toV, Spec.afterCall, Ctl.pbase, adjustBase_false, applyResp_nk_end]
    exact ⟨h.viol, fun hd => by simp [Ctl.isDone] at hd⟩
  | tabEnd v rest =>
    cases hp; cases hpb
    simp only [Call.toV, Spec.afterCall, Ctl.pbase, adjustBase_false, applyResp_nt_end]
    exact ⟨h.viol, fun hd => by simp [Ctl.isDone] at hd⟩
  | kbdOneTablet v rest ev hit =>
    cases hp; cases hpb
    have hS : S.inTablet = true := h.tab.trans hit
    simp only [Call.toV, Spec.afterCall, Ctl.pbase, adjustBase_false, nextPendingOf_tablet _ _ _ _ hS, applyResp_nk_one_tablet L S t ev hS]
    exact ⟨h.viol, fun _ => ⟨h.viol, h.s, h.tab, rfl, h.inv, h.notified, h.armed, rfl, ⟨hvv.1, trivial⟩, trivial⟩⟩
  | tabOneQuiet v rest tev hemp =>
    cases hp; cases hpb
    obtain ⟨P, hP⟩ := h.inv
    have ra := releaseAll_spec L P v.m hP
    have hem : Emits S.V (releaseAll L v.m).2 (held (releaseAll L v.m).1) := ra.2.1.congr_left fun k => (hvv.1 k).symm
    simp only [Call.toV, Spec.afterCall, Ctl.pbase, adjustBase_false, nextPendingOf, applyResp_nt_one, h.s, hemp, if_true]
    refine ⟨h.viol, fun _ => ⟨h.viol, rfl, rfl, rfl, ⟨P, ra.1⟩, h.notified, rfl, rfl, ⟨?_, trivial⟩, trivial⟩⟩
    have h2 := hem.2
    rw [show (releaseAll L v.m).2 = [] by simpa using hemp] at h2
    simpa using h2
  | tabOneSend v rest tev hemp =>
    cases hp; cases hpb
    obtain ⟨P, hP⟩ := h.inv
    have ra := releaseAll_spec L P v.m hP
    have hem : Emits S.V (releaseAll L v.m).2 (held (releaseAll L v.m).1) := ra.2.1.congr_left fun k => (hvv.1 k).symm
    simp only [Call.toV, Spec.afterCall, Ctl.pbase, adjustBase_false, nextPendingOf, applyResp_nt_one, h.s, hemp, Bool.false_eq_true, if_false]
    exact ⟨h.viol, fun _ => ⟨h.viol, rfl, rfl, rfl, ⟨P, ra.1⟩, h.notified, rfl, rfl, ⟨hem.sendOk _, rfl⟩, trivial⟩⟩
  | kbdOneQuiet v rest ev hit hemp =>
    cases hp; cases hpb
    have hS : S.inTablet = false := h.tab.trans hit
    obtain ⟨P, hP⟩ := h.inv
    have si := step_inv L P v.m ev hP
    have hem := si.2.1.congr_left fun k => (hvv.1 k).symm
    rw [show (step L v.m ev).2.events = [] by simpa using hemp] at hem
    have hV : ∀ k, k ∈ S.V ↔ k ∈ held (step L v.m ev).1 := by simpa using hem.2
    simp only [Call.toV, Spec.afterCall, Ctl.pbase, adjustBase_false, nextPendingOf_one _ _ _ hS, applyResp_nk_one L S t ev hS,
      h.s, hemp, if_true]
    simp only [armedOf] at har
    refine ⟨h.viol, fun _ => ?_⟩
    generalize (step L v.m ev).2.rep = rr
    cases rr <;>
      exact ⟨h.viol, rfl, hS.trans hit.symm, rfl, ⟨_, si.1⟩, h.notified, by simp [armedAfter, afterStep, armedOf, repArmed, har],
        by simp [afterStep, Ctl.pbase], ⟨hV, trivial⟩, trivial⟩
  | kbdOneSend v rest ev hit hemp =>
    cases hp; cases hpb
    have hS : S.inTablet = false := h.tab.trans hit
    obtain ⟨P, hP⟩ := h.inv
    have si := step_inv L P v.m ev hP
    have hem := si.2.1.congr_left fun k => (hvv.1 k).symm
    simp only [Call.toV, Spec.afterCall, Ctl.pbase, adjustBase_false, nextPendingOf_one _ _ _ hS, applyResp_nk_one L S t ev hS,
      h.s, hemp, Bool.false_eq_true, if_false]
    simp only [armedOf] at har
    refine ⟨h.viol, fun _ => ⟨h.viol, rfl, hS.trans hit.symm, rfl, ⟨_, si.1⟩, h.notified, ?_, ?_, ⟨hem.sendOk _, rfl⟩, trivial⟩⟩
    · simp [armedOf, har]
    · cases (step L v.m ev).2.rep <;> simp [Ctl.pbase]

/-- every visible transition: the automaton digests the entry, raises nothing, and the relation holds again
(`hok`: the answer has the type the call expects) -/
theorem SimR.visible {L : Layout} {x : Machine} {lastT : Nat} {S : Spec} {pb : Bool}
    (h : SimR L x lastT S pb) (tol : Nat) (c : Call) (hp : pending x = some c) (hv : c.isVisible = true)
    (r : Resp) (t : Nat) (hok : (advance L x r).c ≠ Ctl.bad) :
    Sim L (advance L x r) t (specStep L tol S pb ⟨c.toV, r, t⟩).1 (specStep L tol S pb ⟨c.toV, r, t⟩).2 :=
  h.adv (Adv.of_ne_bad hok) tol hp hv t

end TmVerif
