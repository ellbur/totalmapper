/-
What the declarative expansion `expand` returns, followed once through its functions: it never
panics (it has no index, no `unwrap`, no subtraction), its mappings have a trigger, and, if the
source layout is what the parser returns (`Fancy.layoutOK`), they have all that `Saveable` asks.
Through `convert = expand` these are facts about `convert`.
-/
import TmVerif.Proofs.LoadBasic
import TmVerif.Proofs.LoadWellFormed
import TmVerif.Proofs.LoadChoices

namespace TmVerif
namespace Expand
open Outcome Fancy TmVerif.Tables

/-- the part of `Mapping.saveable` that is not `Mapping.wf` -/
structure SavePart (m : TmVerif.Mapping) : Prop where
  frm : keysKnown m.frm = true
  to : keysKnown m.to = true
  absorbing : keysKnown m.absorbing = true
  absorbed : ∀ k ∈ m.absorbing, k ∈ m.frm.dropLast
  rep : Repeat.saveable m.rep = true

/-- what is shown of each mapping of the result; `H`: what is assumed of the source it comes from -/
def Good (H : Prop) (m : TmVerif.Mapping) : Prop := m.frm ≠ [] ∧ (H → SavePart m)

/-- the chosen alias definitions only name known keys -/
def DefsKnown (ch : List AliasMapping) : Prop := ∀ d ∈ ch, keysKnown d.frm.keys = true

/-! ## trigger side and output side of one choice -/

theorem trigger_known {mods : List Modifier} (hm : modsOK mods = true) :
    ∀ {ch : List AliasMapping}, DefsKnown ch → keysKnown (trigger mods ch) = true := by
  induction mods with
  | nil => intros; rfl
  | cons m mods ih =>
    simp only [modsOK, List.all_cons, Bool.and_eq_true] at hm
    intro ch hc
    cases m with
    | key k => exact keysKnown_cons.2 ⟨hm.1, ih hm.2 hc⟩
    | alias n =>
      cases ch with
      | nil => exact ih hm.2 hc
      | cons d ch =>
        exact keysKnown_append.2 ⟨hc d (List.mem_cons_self ..), ih hm.2 fun d' h => hc d' (List.mem_cons_of_mem _ h)⟩

theorem mem_trigger_of_key {k : Key} {mods : List Modifier} (h : Modifier.key k ∈ mods) :
    ∀ (ch : List AliasMapping), k ∈ trigger mods ch := by
  induction mods with
  | nil => cases h
  | cons m mods ih =>
    intro ch
    cases m with
    | key k' =>
      rcases List.mem_cons.1 h with h | h
      · cases h; exact List.mem_cons_self ..
      · exact List.mem_cons_of_mem _ (ih h ch)
    | alias n =>
      rcases List.mem_cons.1 h with h | h
      · cases h
      · cases ch with
        | nil => exact ih h []
        | cons d ch => exact List.mem_append_right _ (ih h ch)

/-- the definition an output-side alias stands for is one of the chosen ones, and its keys are in
the trigger -/
theorem chosen_spec {n : List Char} {d : AliasMapping} {mods : List Modifier} :
    ∀ {ch : List AliasMapping}, chosen mods ch n = some d → d ∈ ch ∧ ∀ k ∈ d.frm.keys, k ∈ trigger mods ch := by
  unfold chosen
  induction mods with
  | nil => intro ch h; cases ch <;> cases h
  | cons m mods ih =>
    intro ch h
    cases m with
    | key k =>
      have := ih h
      exact ⟨this.1, fun k' hk' => List.mem_cons_of_mem _ (this.2 k' hk')⟩
    | alias n' =>
      cases ch with
      | nil => cases h
      | cons d0 ch =>
        simp only [slots, lastChosen] at h
        split at h
        · cases h
          rename_i heq
          have := ih heq
          exact ⟨List.mem_cons_of_mem _ this.1, fun k hk => List.mem_append_right _ (this.2 k hk)⟩
        · split at h
          · cases h
            exact ⟨List.mem_cons_self .., fun k hk => List.mem_append_left _ hk⟩
          · cases h

theorem absorbingOk_cons {m : Modifier} {ms mods : List Modifier} :
    Parse.absorbingOk (m :: ms) mods = true ↔ m ∈ mods ∧ Parse.absorbingOk ms mods = true := by
  simp [Parse.absorbingOk]

theorem outMods_sat (mods : List Modifier) (ch : List AliasMapping) (ms : List Modifier) :
    Sat (outMods mods ch ms) fun ks =>
      (modsOK ms = true → DefsKnown ch → keysKnown ks = true) ∧
      (Parse.absorbingOk ms mods = true → ∀ k ∈ ks, k ∈ trigger mods ch) := by
  induction ms with
  | nil => exact sat_ok ⟨fun _ _ => rfl, fun _ _ h => nomatch h⟩
  | cons m ms ih =>
    cases m with
    | key k =>
      refine ih.bind fun rest hrest => sat_ok ⟨fun hm hc => ?_, fun ha k' hk' => ?_⟩
      · simp only [modsOK, List.all_cons, Bool.and_eq_true] at hm
        exact keysKnown_cons.2 ⟨hm.1, hrest.1 hm.2 hc⟩
      · rw [absorbingOk_cons] at ha
        rcases List.mem_cons.1 hk' with rfl | hk'
        · exact mem_trigger_of_key ha.1 ch
        · exact hrest.2 ha.2 k' hk'
    | alias n =>
      unfold outMods
      split
      · exact sat_error
      · rename_i d hd
        have hd := chosen_spec hd
        refine ih.bind fun rest hrest => sat_ok ⟨fun hm hc => ?_, fun ha k' hk' => ?_⟩
        · simp only [modsOK, List.all_cons, Bool.and_eq_true] at hm
          exact keysKnown_append.2 ⟨hc d hd.1, hrest.1 hm.2 hc⟩
        · rw [absorbingOk_cons] at ha
          rcases List.mem_append.1 hk' with hk' | hk'
          · exact hd.2 k' hk'
          · exact hrest.2 ha.2 k' hk'

theorem outKeys_sat (mods : List Modifier) (ch : List AliasMapping) (to : SingleToKeys) :
    Sat (outKeys mods ch to) fun ks => stkOK to = true → DefsKnown ch → keysKnown ks = true := by
  unfold outKeys
  split
  · exact sat_ok fun _ _ => rfl
  · rename_i k hk
    refine (outMods_sat mods ch to.initial).bind fun ks hks => sat_ok fun hto hc => ?_
    simp only [stkOK, Bool.and_eq_true, hk, termOK] at hto
    exact keysKnown_append.2 ⟨hks.1 hto.1 hc, keysKnown_cons.2 ⟨hto.2, rfl⟩⟩

theorem outRepeat_sat (mods : List Modifier) (ch : List AliasMapping) (r : SingleRepeat) :
    Sat (outRepeat mods ch r) fun rep => srepOK r = true → DefsKnown ch → Repeat.saveable rep = true := by
  cases r with
  | normal => exact sat_ok fun _ _ => rfl
  | disabled => exact sat_ok fun _ _ => rfl
  | special keys d i =>
    refine (outKeys_sat mods ch keys).bind fun ks hks => sat_ok fun hr hc => ?_
    simp only [srepOK, Bool.and_eq_true] at hr
    simp [Repeat.saveable, hks hr.1.1 hc, hr.1.2, hr.2]

/-! ## choices of alias definitions -/

/-- in a well-formed layout every choice of alias definitions only names known keys -/
theorem choices_known {F : Fancy.Layout} (hF : layoutOK F = true) {ns : List (List Char)} {ds : List (List AliasMapping)}
    (hs : slotDefs F ns = some ds) {ch : List AliasMapping} (hch : ch ∈ choices ds) : DefsKnown ch := by
  intro d hd
  obtain ⟨l, hl, hdl⟩ := mem_of_mem_choices hch d hd
  have := List.all_eq_true.1 hF _ (slotDefs_mem hs l hl d hdl)
  simp only [mappingOK, Bool.and_eq_true] at this
  exact this.1.1

/-! ## single mappings -/

theorem expandSingleOne_sat (s : SingleMapping) (ch : List AliasMapping) :
    Sat (expandSingleOne s ch) (Good (mappingOK (Mapping.single s) = true ∧ DefsKnown ch)) := by
  unfold expandSingleOne
  refine (outKeys_sat ..).bind fun to hto => (outRepeat_sat ..).bind fun rep hrep => (outMods_sat ..).bind fun abs habs =>
    sat_ok ⟨by simp, fun ⟨hs, hc⟩ => ?_⟩
  simp only [mappingOK, Bool.and_eq_true, and_assoc] at hs
  obtain ⟨hmods, hkey, hto', hrep', habs', hao⟩ := hs
  exact ⟨keysKnown_append.2 ⟨trigger_known hmods hc, keysKnown_cons.2 ⟨hkey, rfl⟩⟩, hto hto' hc, habs.1 habs' hc,
    by simpa [List.dropLast_concat] using habs.2 hao, hrep hrep' hc⟩

theorem expandSingle_sat (F : Fancy.Layout) (s : SingleMapping) :
    Sat (expandSingle F s) fun sms => ∀ m ∈ sms, Good (layoutOK F = true ∧ mappingOK (Mapping.single s) = true) m := by
  unfold expandSingle
  split
  · exact sat_error
  · rename_i ds hds
    refine (sat_mapM fun ch _ => expandSingleOne_sat s ch).mono fun sms h m hm => ?_
    obtain ⟨ch, hch, hg⟩ := h m hm
    exact ⟨hg.1, fun ⟨hF, hs⟩ => hg.2 ⟨hs, choices_known hF hds hch⟩⟩

/-! ## row mappings -/

theorem charTable_known : charTable.all (fun r => isKnownKey r.2.2) = true := by decide +kernel

theorem rowKeys_known (r : Row) : keysKnown (rowKeys r) = true := by
  cases r <;> decide +kernel

theorem shiftFor_known (trig : List Key) : isKnownKey (shiftFor trig) = true := by
  unfold shiftFor
  split <;> decide +kernel

theorem charKey_known {c : Char} {sh : Bool} {k : Key} (h : charKey c = some (sh, k)) : isKnownKey k = true := by
  simp only [charKey, Option.map_eq_some_iff] at h
  obtain ⟨e, he, heq⟩ := h
  have := List.all_eq_true.1 charTable_known e (List.mem_of_find?_eq_some he)
  rw [heq] at this
  exact this

theorem letterKeys_sat (trig mods : List Key) (c : Char) :
    Sat (letterKeys trig mods c) fun r => ∀ ks, r = some ks → keysKnown mods = true → keysKnown ks = true := by
  unfold letterKeys
  split
  · exact sat_ok nofun
  · split
    · exact sat_error
    · rename_i sh k hck
      refine sat_ok fun ks hks hm => ?_
      cases hks
      refine keysKnown_append.2 ⟨keysKnown_append.2 ⟨hm, ?_⟩, keysKnown_cons.2 ⟨charKey_known hck, rfl⟩⟩
      cases sh
      · rfl
      · exact keysKnown_cons.2 ⟨shiftFor_known trig, rfl⟩

theorem rowRepeatAt_sat (trig rmods : List Key) (rep : RowRepeat) (i : Nat) :
    Sat (rowRepeatAt trig rmods rep i) fun r => rrepOK rep = true → keysKnown rmods = true → Repeat.saveable r = true := by
  cases rep with
  | normal => exact sat_ok fun _ _ => rfl
  | disabled => exact sat_ok fun _ _ => rfl
  | special keys d iv =>
    simp only [rowRepeatAt]
    split
    · exact sat_ok fun _ _ => rfl
    · refine (letterKeys_sat ..).bind fun r hr => ?_
      cases r with
      | none => exact sat_ok fun _ _ => rfl
      | some ks =>
        refine sat_ok fun hrep hm => ?_
        simp only [rrepOK, Bool.and_eq_true] at hrep
        simp [Repeat.saveable, hr ks rfl hm, hrep.1.2, hrep.2]

theorem rowRepeatMods_sat (r : RowMapping) (ch : List AliasMapping) :
    Sat (rowRepeatMods r ch) fun rmods => rrepOK r.rep = true → DefsKnown ch → keysKnown rmods = true := by
  unfold rowRepeatMods
  split
  · rename_i keys _ _ hrep
    refine sat_ite sat_error ((outMods_sat ..).mono fun ks hks hr hc => hks.1 ?_ hc)
    simp only [hrep, rrepOK, Bool.and_eq_true] at hr
    exact hr.1.1
  · exact sat_ok fun _ _ => rfl

theorem expandRowAt_sat (r : RowMapping) (ch : List AliasMapping) (toMods rmods : List Key) (p : Nat × Char) :
    Sat (expandRowAt r ch (trigger r.frm.modifiers ch) toMods rmods p) fun ms => ∀ m ∈ ms,
      Good (mappingOK (Mapping.row r) = true ∧ DefsKnown ch ∧ keysKnown toMods = true ∧ keysKnown rmods = true) m := by
  unfold expandRowAt
  split
  · exact sat_error
  · rename_i key hkey
    refine (letterKeys_sat ..).bind fun to hto => ?_
    cases to with
    | none => exact sat_ok nofun
    | some to =>
      refine (rowRepeatAt_sat ..).bind fun rep hrep => (outMods_sat ..).bind fun abs habs => sat_ok fun m hm => ?_
      cases List.mem_singleton.1 hm
      refine ⟨by simp, fun ⟨hr, hc, htm, hrm⟩ => ?_⟩
      simp only [mappingOK, Bool.and_eq_true, and_assoc] at hr
      obtain ⟨hmods, _, hrrep, habs', hao⟩ := hr
      have hkey' : isKnownKey key = true :=
        List.all_eq_true.1 (rowKeys_known r.frm.row) key (List.mem_of_getElem? hkey)
      exact ⟨keysKnown_append.2 ⟨trigger_known hmods hc, keysKnown_cons.2 ⟨hkey', rfl⟩⟩, hto to rfl htm,
        habs.1 habs' hc, by simpa [List.dropLast_concat] using habs.2 hao, hrep hrrep hrm⟩

theorem expandRowOne_sat (r : RowMapping) (ch : List AliasMapping) :
    Sat (expandRowOne r ch) fun ms => ∀ m ∈ ms, Good (mappingOK (Mapping.row r) = true ∧ DefsKnown ch) m := by
  unfold expandRowOne
  refine (outMods_sat ..).bind fun toMods htm => (rowRepeatMods_sat r ch).bind fun rmods hrm =>
    (sat_mapM fun p _ => expandRowAt_sat r ch toMods rmods p).bind fun gs hgs => sat_ok fun m hm => ?_
  obtain ⟨g, hg, hm⟩ := List.mem_flatten.1 hm
  obtain ⟨p, _, hp⟩ := hgs g hg
  refine ⟨(hp m hm).1, fun ⟨hr, hc⟩ => (hp m hm).2 ⟨hr, hc, ?_⟩⟩
  simp only [mappingOK, Bool.and_eq_true, and_assoc] at hr
  exact ⟨htm.1 hr.2.1 hc, hrm hr.2.2.1 hc⟩

theorem expandRow_sat (F : Fancy.Layout) (r : RowMapping) :
    Sat (expandRow F r) fun sms => ∀ m ∈ sms, Good (layoutOK F = true ∧ mappingOK (Mapping.row r) = true) m := by
  unfold expandRow
  split
  · exact sat_error
  · rename_i ds hds
    refine (sat_mapM fun ch _ => expandRowOne_sat r ch).bind fun gs hgs => sat_ok fun m hm => ?_
    obtain ⟨g, hg, hm⟩ := List.mem_flatten.1 hm
    obtain ⟨ch, hch, hp⟩ := hgs g hg
    exact ⟨(hp m hm).1, fun ⟨hF, hr⟩ => (hp m hm).2 ⟨hr, choices_known hF hds hch⟩⟩

/-! ## the two passes -/

theorem mem_expandAlias {a : AliasMapping} {m : TmVerif.Mapping} (h : m ∈ expandAlias a) :
    m = ⟨a.frm.keys, a.to.initial, Repeat.normal, []⟩ := by
  unfold expandAlias at h
  split at h
  · rename_i k hk
    split at h
    · cases h
    · rw [hk]; exact List.mem_singleton.1 h
  · exact List.mem_singleton.1 h

/-- the mappings a source mapping expands to: they have a trigger if an alias definition has a key,
and `SavePart` if the source mapping is what the parser returns -/
theorem expandMapping_sat (F : Fancy.Layout) (fm : Fancy.Mapping) :
    Sat (expandMapping F fm) fun sms => ∀ m ∈ sms,
      ((∀ a, fm = Mapping.alias a → a.frm.keys ≠ []) → m.frm ≠ []) ∧
      (layoutOK F = true ∧ mappingOK fm = true → SavePart m) := by
  cases fm with
  | alias a =>
    refine sat_ok fun m hm => ?_
    cases mem_expandAlias hm
    refine ⟨fun h => h a rfl, fun ⟨_, ha⟩ => ?_⟩
    simp only [mappingOK, Bool.and_eq_true] at ha
    exact ⟨ha.1.1, ha.1.2, rfl, nofun, rfl⟩
  | single s => exact (expandSingle_sat F s).mono fun sms h m hm => ⟨fun _ => (h m hm).1, (h m hm).2⟩
  | row r => exact (expandRow_sat F r).mono fun sms h m hm => ⟨fun _ => (h m hm).1, (h m hm).2⟩
  | repeatOnly s => exact sat_ok nofun

theorem repeatOnlyOne_sat (s : RepeatOnlySingleMapping) (ch : List AliasMapping) :
    Sat (repeatOnlyOne s ch) fun e => e.1 ≠ [] ∧
      (mappingOK (Mapping.repeatOnly s) = true ∧ DefsKnown ch → keysKnown e.1 = true ∧ Repeat.saveable e.2 = true) := by
  unfold repeatOnlyOne
  refine (outRepeat_sat ..).bind fun rep hrep => sat_ok ⟨by simp, fun ⟨hs, hc⟩ => ?_⟩
  simp only [mappingOK, Bool.and_eq_true, and_assoc] at hs
  exact ⟨keysKnown_append.2 ⟨trigger_known hs.1 hc, keysKnown_cons.2 ⟨hs.2.1, rfl⟩⟩, hrep hs.2.2 hc⟩

theorem repeatOnlyEntries_sat (F : Fancy.Layout) (fm : Fancy.Mapping) :
    Sat (repeatOnlyEntries F fm) fun es => ∀ e ∈ es, e.1 ≠ [] ∧
      (layoutOK F = true ∧ mappingOK fm = true → keysKnown e.1 = true ∧ Repeat.saveable e.2 = true) := by
  cases fm with
  | repeatOnly s =>
    simp only [repeatOnlyEntries]
    split
    · exact sat_error
    · rename_i ds hds
      refine (sat_mapM fun ch _ => repeatOnlyOne_sat s ch).mono fun es h e he => ?_
      obtain ⟨ch, hch, hp⟩ := h e he
      exact ⟨hp.1, fun ⟨hF, hs⟩ => hp.2 ⟨hs, choices_known hF hds hch⟩⟩
  | single _ => exact sat_ok nofun
  | alias _ => exact sat_ok nofun
  | row _ => exact sat_ok nofun

theorem mem_applyRepeat {n : Nat} {cur : List TmVerif.Mapping} {e : List Key × Repeat} {m' : TmVerif.Mapping}
    (h : m' ∈ applyRepeat n cur e) :
    (∃ m ∈ cur, m' = m ∨ m' = { m with rep := e.2 }) ∨ m' = ⟨e.1, e.1, e.2, []⟩ := by
  unfold applyRepeat at h
  split at h
  · rcases List.mem_append.1 h with h | h
    · obtain ⟨m, hm, rfl⟩ := List.mem_map.1 h
      refine Or.inl ⟨m, List.mem_of_mem_take hm, ?_⟩
      split
      · exact Or.inr rfl
      · exact Or.inl rfl
    · exact Or.inl ⟨m', List.mem_of_mem_drop h, Or.inl rfl⟩
  · rcases List.mem_append.1 h with h | h
    · exact Or.inl ⟨m', h, Or.inl rfl⟩
    · exact Or.inr (List.mem_singleton.1 h)

/-- after the repeat-only entries: every mapping is one of the first pass or the identity mapping of
an entry, its repeat possibly replaced by that of an entry -/
theorem mem_foldl_applyRepeat {n : Nat} {es : List (List Key × Repeat)} {m' : TmVerif.Mapping} :
    ∀ {cur : List TmVerif.Mapping}, m' ∈ es.foldl (applyRepeat n) cur →
      ∃ m, (m ∈ cur ∨ ∃ e ∈ es, m = ⟨e.1, e.1, e.2, []⟩) ∧
        ∃ r, m' = { m with rep := r } ∧ (r = m.rep ∨ ∃ e ∈ es, r = e.2) := by
  induction es with
  | nil => exact fun h => ⟨m', Or.inl h, m'.rep, rfl, Or.inl rfl⟩
  | cons e es ih =>
    intro cur h
    have later : ∀ {P : List Key × Repeat → Prop}, (∃ e' ∈ es, P e') → ∃ e' ∈ e :: es, P e' :=
      fun ⟨e', he', hp⟩ => ⟨e', List.mem_cons_of_mem _ he', hp⟩
    obtain ⟨m1, hm1, r, rfl, hr⟩ := ih h
    rcases hm1 with hm1 | hm1
    · rcases mem_applyRepeat hm1 with ⟨m, hm, rfl | rfl⟩ | rfl
      · exact ⟨m1, Or.inl hm, r, rfl, hr.imp_right later⟩
      · refine ⟨m, Or.inl hm, r, rfl, Or.inr ?_⟩
        rcases hr with rfl | hr
        · exact ⟨e, List.mem_cons_self .., rfl⟩
        · exact later hr
      · exact ⟨_, Or.inr ⟨e, List.mem_cons_self .., rfl⟩, r, rfl, hr.imp_right later⟩
    · exact ⟨m1, Or.inr (later hm1), r, rfl, hr.imp_right later⟩

/-- `expand` never panics; what it returns is well-formed if alias definitions have a key, and
saveable if the source layout is what the parser returns -/
theorem expand_sat (F : Fancy.Layout) :
    Sat (expand F) fun L =>
      (aliasFromNonempty F = true → Layout.wf L = true) ∧ (layoutOK F = true → Saveable L = true) := by
  unfold expand
  refine (sat_mapM fun fm _ => expandMapping_sat F fm).bind fun groups hg =>
    (sat_mapM fun fm _ => repeatOnlyEntries_sat F fm).bind fun entries he => ?_
  dsimp only
  split
  · rename_i hno
    have hbase : ∀ m ∈ groups.flatten,
        (aliasFromNonempty F = true → m.frm ≠ []) ∧ (layoutOK F = true → SavePart m) := by
      intro m hm
      obtain ⟨g, hg', hm⟩ := List.mem_flatten.1 hm
      obtain ⟨fm, hfm, h⟩ := hg g hg'
      refine ⟨fun hA => (h m hm).1 fun a ha => ?_, fun hF => (h m hm).2 ⟨hF, List.all_eq_true.1 hF fm hfm⟩⟩
      simpa [ha] using List.all_eq_true.1 hA fm hfm
    have hent : ∀ e ∈ entries.flatten,
        e.1 ≠ [] ∧ (layoutOK F = true → keysKnown e.1 = true ∧ Repeat.saveable e.2 = true) := by
      intro e he'
      obtain ⟨es, hes, he'⟩ := List.mem_flatten.1 he'
      obtain ⟨fm, hfm, h⟩ := he es hes
      exact ⟨(h e he').1, fun hF => (h e he').2 ⟨hF, List.all_eq_true.1 hF fm hfm⟩⟩
    have key : ∀ m' ∈ entries.flatten.foldl (applyRepeat groups.flatten.length) groups.flatten,
        (aliasFromNonempty F = true → m'.frm ≠ []) ∧ (layoutOK F = true → SavePart m') := by
      intro m' hm'
      obtain ⟨m, hm, r, rfl, hr⟩ := mem_foldl_applyRepeat hm'
      have hm0 : (aliasFromNonempty F = true → m.frm ≠ []) ∧ (layoutOK F = true → SavePart m) := by
        rcases hm with hm | ⟨e, he', rfl⟩
        · exact hbase m hm
        · exact ⟨fun _ => (hent e he').1, fun hF =>
            ⟨((hent e he').2 hF).1, ((hent e he').2 hF).1, rfl, nofun, ((hent e he').2 hF).2⟩⟩
      refine ⟨hm0.1, fun hF => ?_⟩
      have sp := hm0.2 hF
      refine ⟨sp.frm, sp.to, sp.absorbing, sp.absorbed, ?_⟩
      rcases hr with rfl | ⟨e, he', rfl⟩
      · exact sp.rep
      · exact ((hent e he').2 hF).2
    have hwf : aliasFromNonempty F = true → ∀ m' ∈ entries.flatten.foldl (applyRepeat groups.flatten.length) groups.flatten,
        Mapping.wf m' = true := by
      intro hA m' hm'
      have h1 := (key m' hm').1 hA
      have h2 := List.all_eq_true.1 hno m' hm'
      simp only [Bool.and_eq_true, decide_eq_true_eq] at h2
      simp [Mapping.wf, h1, h2.1, h2.2]
    refine sat_ok ⟨fun hA => List.all_eq_true.2 (hwf hA), fun hF => List.all_eq_true.2 fun m' hm' => ?_⟩
    have sp := (key m' hm').2 hF
    simpa [Mapping.saveable, hwf (aliasFromNonempty_of_layoutOK hF) m' hm', sp.frm, sp.to, sp.absorbing, sp.rep]
      using sp.absorbed
  · exact sat_error

end Expand
end TmVerif
