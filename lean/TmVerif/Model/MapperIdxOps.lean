/-
`runIdx`: the index-faithful twin driven by a history of operations (`Op` = a key event through
`Mapper::step`, or a `Mapper::release_all` call).  Separate from `Model/MapperIdx.lean` only because
`Op` is defined in `Proofs/Sys.lean`.  No proofs here.
-/
import TmVerif.Model.MapperIdx
import TmVerif.Proofs.Sys

namespace TmVerif

/-- one operation on the index-faithful mapper: new state and the events written; `none` = panic -/
def opIdx (L : Layout) (s : State) : Op → Option (State × List Event)
  | Op.ev e =>
    match stepIdx L s e with
    | none => none
    | some (s1, r) => some (s1, r.events)
  | Op.relAll => releaseAllIdx L s

/-- the structural counterpart of `opIdx` (what `Sys.next` / `Sys.out` compute on the state component) -/
def opStruct (L : Layout) (s : State) : Op → State × List Event
  | Op.ev e => ((step L s e).1, (step L s e).2.events)
  | Op.relAll => releaseAll L s

def runStruct (L : Layout) : State → List Op → State × List (List Event)
  | s, [] => (s, [])
  | s, op :: ops =>
    ((runStruct L (opStruct L s op).1 ops).1, (opStruct L s op).2 :: (runStruct L (opStruct L s op).1 ops).2)

/-- a whole history (key events and release-all calls) from a state: final state and the per-operation
outputs; `none` as soon as one operation panics -/
def runIdx (L : Layout) : State → List Op → Option (State × List (List Event))
  | s, [] => some (s, [])
  | s, op :: ops =>
    match opIdx L s op with
    | none => none
    | some (s1, out) =>
      match runIdx L s1 ops with
      | none => none
      | some (s2, outs) => some (s2, out :: outs)

end TmVerif
